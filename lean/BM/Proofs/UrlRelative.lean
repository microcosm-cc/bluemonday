import BM.Proofs.UrlScheme
/-
  The bridge between net/url and a browser, relative half (C03): a URL that net/url's Parse returned *without*
  a scheme is printed by `URL.String` in a form the WHATWG scheme-state classifier (`Spec.classifyUrl`) reads as
  a relative reference — never as `javascript:` or any other scheme.  The reasons: Parse
  leaves the opaque part empty when there is no scheme (`parse_shape`) and an authority begins with a slash
  (`printAuth_form`), both in Proofs/UrlScheme; here, `EscapedPath`
  contains no byte the browser strips or deletes (nothing ≤ 0x20); and String puts `./` in front of a path whose
  first segment contains a colon (RFC 3986 §4.2), so the first byte outside the scheme alphabet is never a colon.
-/
namespace BM.Url
open BM BM.Spec

theorem parse_opaq (raw : Bytes) (u : URL) (h : parse raw = some u) (hs : u.scheme = []) : u.opaq = [] :=
  (parse_shape raw u h).2 hs

/-- none of the 33 bytes up to 0x20 may stand unescaped in an encoded path -/
theorem path_low : ∀ n : Fin 33, validEncodedByte .path (UInt8.ofNat n) = false := by decide +kernel

theorem solid_of_validPath {c : UInt8} (h : validEncodedByte .path c = true) : isC0OrSpace c = false := by
  rw [isC0OrSpace, decide_eq_false_iff_not, UInt8.le_iff_toNat_le]
  intro hle
  have := path_low ⟨c.toNat, Nat.lt_succ_of_le hle⟩
  rw [UInt8.ofNat_toNat, h] at this
  cases this

/-- the hex digits of an escape (`0`–`9`, `A`–`F`) lie above 0x20 -/
theorem upperHex_solid {n : Nat} (h : n < 16) : isC0OrSpace (upperHex n) = false := by
  simp only [upperHex, isC0OrSpace, decide_eq_false_iff_not, UInt8.le_iff_toNat_le]
  split <;> simp only [Nat.toUInt8_eq, UInt8.toNat_ofNat', UInt8.reduceToNat] <;> omega

theorem escape_path_solid : ∀ (s : Bytes), ∀ c ∈ escape .path s, isC0OrSpace c = false
  | [], c, hc => by simp [escape] at hc
  | a :: as, c, hc => by
    unfold escape at hc
    simp only [show (Mode.path == Mode.queryComponent) = false from rfl, Bool.and_false, Bool.false_eq_true,
      ↓reduceIte] at hc
    split at hc
    · simp only [List.mem_cons] at hc
      rcases hc with rfl | rfl | rfl | hc
      · decide
      · exact upperHex_solid (Nat.div_lt_of_lt_mul a.toNat_lt)
      · exact upperHex_solid (Nat.mod_lt _ (by decide))
      · exact escape_path_solid as c hc
    · rename_i hse
      rcases List.mem_cons.mp hc with rfl | hc
      · apply solid_of_validPath
        simp only [validEncodedByte, hse, Bool.not_false, Bool.or_true]
      · exact escape_path_solid as c hc

theorem escapedPath_solid (u : URL) : ∀ c ∈ escapedPath u, isC0OrSpace c = false := by
  intro c hc
  unfold escapedPath at hc
  split at hc
  · rename_i hv
    simp only [Bool.and_eq_true] at hv
    exact solid_of_validPath (List.all_eq_true.mp hv.1.2 c hc)
  · split at hc
    · simp only [List.mem_singleton] at hc; subst hc; decide
    · exact escape_path_solid _ c hc

theorem normTail_tailForm {t : Bytes} (h : TailForm t) : TailForm (normTail t) := by
  rcases h with rfl | ⟨r, rfl | rfl⟩
  · exact .inl rfl
  · exact .inr ⟨normTail r, .inl (normTail_cons r (by decide))⟩
  · exact .inr ⟨normTail r, .inr (normTail_cons r (by decide))⟩

theorem next_not_colon : ∀ (P T : Bytes), (cut 47 P).1.contains 58 = false → TailForm T →
    ((P ++ T).drop ((P ++ T).takeWhile schemeByte).length).head? ≠ some 58
  | [], T, _, hT => by
    rcases hT with rfl | ⟨r, rfl | rfl⟩
    · simp
    · rw [List.nil_append, List.takeWhile_cons_of_neg (by decide)]; simp
    · rw [List.nil_append, List.takeWhile_cons_of_neg (by decide)]; simp
  | a :: as, T, hseg, hT => by
    rw [List.cons_append]
    unfold cut at hseg
    cases hsb : schemeByte a with
    | true =>
      -- a scheme byte is not `/`, so the first segment goes on
      have ha47 : (a == 47) = false := by
        rw [beq_eq_false_iff_ne]; rintro rfl; exact absurd hsb (by decide)
      simp only [ha47, Bool.false_eq_true, ↓reduceIte, List.contains_cons, Bool.or_eq_false_iff] at hseg
      rw [List.takeWhile_cons_of_pos hsb, List.length_cons, List.drop_succ_cons]
      exact next_not_colon as T hseg.2 hT
    | false =>
      rw [List.takeWhile_cons_of_neg (by simp [hsb])]
      rintro h
      obtain rfl : a = 58 := by simpa using h
      simp [show ((58 : UInt8) == 47) = false by decide] at hseg

theorem classify_nonalpha (c : UInt8) (t : Bytes) (hc : isC0OrSpace c = false) (hna : isAlpha c = false) :
    classifyUrl (c :: t) = .relative := by
  rw [classifyUrl_cons t hc]
  simp only [classifyNorm, hna, Bool.false_eq_true, ↓reduceIte]

theorem classify_relative_path (P T : Bytes) (hP : ∀ c ∈ P, isC0OrSpace c = false)
    (hseg : (cut 47 P).1.contains 58 = false) (hT : TailForm T) : classifyUrl (P ++ T) = .relative := by
  cases P with
  | nil =>
    rcases hT with rfl | ⟨r, rfl | rfl⟩
    · rfl
    · exact classify_nonalpha 63 r (by decide) (by decide)
    · exact classify_nonalpha 35 r (by decide) (by decide)
  | cons c cs =>
    -- the normalisation leaves the path alone and the tail in its form
    rw [List.cons_append, classifyUrl_cons _ (hP c (by simp)),
      normTail_append _ (fun x hx => hP x (by simp [hx])), ← List.cons_append]
    have hn := next_not_colon (c :: cs) (normTail T) hseg (normTail_tailForm hT)
    simp only [classifyNorm, List.cons_append] at hn ⊢
    split
    · split
      · rename_i h58
        exact absurd (by simpa using h58) hn
      · rfl
    · rfl

/-- what `URL.String` prints for a URL without scheme and opaque part, wherever the URL comes from -/
theorem print_relative_class (u : URL) (hs : u.scheme = []) (hop : u.opaq = []) :
    classifyUrl (print u) = .relative := by
  rw [print_eq]
  simp only [hs, hop, List.isEmpty_nil, Bool.not_true, Bool.false_eq_true, ↓reduceIte]
  obtain ⟨T, hTeq, hT⟩ := printTail_form u (printHier u [])
  rw [hTeq]
  unfold printHier
  simp only [List.nil_append]
  rcases printAuth_form u with ha | ⟨x, ha⟩
  · rw [ha]
    split
    · exact classify_nonalpha 47 _ (by decide) (by decide)
    · -- no authority: the path, with ./ in front if its first segment has a colon
      simp only [List.isEmpty_nil, Bool.true_and]
      split
      · exact classify_nonalpha 46 _ (by decide) (by decide)
      · rename_i hseg
        exact classify_relative_path _ T (escapedPath_solid u) (by simpa using hseg) hT
  · rw [ha]
    split <;> exact classify_nonalpha 47 _ (by decide) (by decide)

/-- **C03 bridge, relative half**: what `URL.String` prints for a URL that Parse returned
    without a scheme is a relative reference for a browser -/
theorem printed_relative_is_browser_relative (raw : Bytes) (u : URL) (hp : parse raw = some u) (hs : u.scheme = []) :
    classifyUrl (print u) = .relative :=
  print_relative_class u hs (parse_opaq raw u hp hs)

/-- C03 bridge, both halves -/
theorem printed_class (raw : Bytes) (u : URL) (hp : parse raw = some u) :
    classifyUrl (print u) = if u.scheme = [] then .relative else .scheme u.scheme := by
  split
  · rename_i h; exact printed_relative_is_browser_relative raw u hp h
  · rename_i h; exact printed_scheme_is_browser_scheme raw u hp h

end BM.Url
