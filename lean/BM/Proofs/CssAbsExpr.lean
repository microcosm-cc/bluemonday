import BM.Proofs.CssAnalysis
import BM.Proofs.GoliteInv
/-
  Soundness of the analysis of Proofs/CssAnalysis, first half: expressions.  What an abstract value says of a
  concrete one (`AVsem`, `Rel`); `aeval_sound` (the abstract value of an expression describes every value
  it evaluates to); `aimp_sound` / `aimpF_sound` (a condition that came out true / false establishes the
  target); `facts_sound` (the facts about list elements listed for an outcome hold).  The interpreter is
  never unfolded here: everything goes through the inversions of Proofs/GoliteInv.

  Fuel: `CallsOK A c k` says that handlers named closed are right up to fuel `k`.  A theorem about a run at
  fuel `k` asks for `CallsOK A c (k - 1)`, because a call made by an expression or statement evaluated at
  fuel `k` runs at fuel at most `k - 1`; at `k = 0` nothing runs, so the truncated subtraction is harmless.
-/
namespace BM.Golite
open BM

/-- the values the targets stand for: the handler's argument and the current loop element -/
structure Targets where
  param : Bytes
  elem : Bytes

def Targets.get (tv : Targets) : Target → Bytes
  | .param => tv.param
  | .elem => tv.elem

def AVsem (A : ACtx) (tv : Targets) : AV → Val → Prop
  | .covS t, v => ∃ s, v = .str s ∧ (Clean s → Clean (tv.get t))
  | .covL t, v => ∃ l, v = .strs l ∧ (CleanL l → Clean (tv.get t))
  | .cleanS, v => ∃ s, v = .str s ∧ Clean s
  | .cleanL, v => ∃ l, v = .strs l ∧ CleanL l
  | .funcs, v => ∃ fs, v = .funcs fs ∧ ∀ f ∈ fs, f ∈ A.closedFns
  | .anyBool, v => ∃ b, v = .bool b
  | .flag t, v => ∃ b, v = .bool b ∧ (b = true → Clean (tv.get t))
  | .other, _ => True

def Rel (A : ACtx) (tv : Targets) (ρ : AEnv) (env : Env) : Prop :=
  ∀ n val, env.get? n = some val → AVsem A tv (ρ n) val

variable {A : ACtx} {c : Ctx} {tv : Targets} {ρ : AEnv} {env : Env}

theorem AVsem_covS {A : ACtx} {tv : Targets} {t : Target} {v : Val} :
    AVsem A tv (.covS t) v ↔ ∃ s, v = .str s ∧ (Clean s → Clean (tv.get t)) := Iff.rfl
theorem AVsem_covL {A : ACtx} {tv : Targets} {t : Target} {v : Val} :
    AVsem A tv (.covL t) v ↔ ∃ l, v = .strs l ∧ (CleanL l → Clean (tv.get t)) := Iff.rfl
theorem AVsem_cleanS {A : ACtx} {tv : Targets} {v : Val} : AVsem A tv .cleanS v ↔ ∃ s, v = .str s ∧ Clean s := Iff.rfl
theorem AVsem_cleanL {A : ACtx} {tv : Targets} {v : Val} : AVsem A tv .cleanL v ↔ ∃ l, v = .strs l ∧ CleanL l := Iff.rfl
theorem AVsem_funcs {A : ACtx} {tv : Targets} {v : Val} :
    AVsem A tv .funcs v ↔ ∃ fs, v = .funcs fs ∧ ∀ f ∈ fs, f ∈ A.closedFns := Iff.rfl

theorem AEnv.set_self (ρ : AEnv) (n : String) (a : AV) : (ρ.set n a) n = a := by
  simp only [AEnv.set, beq_self_eq_true, ↓reduceIte]

theorem AEnv.set_ne (ρ : AEnv) {n m : String} (a : AV) (h : m ≠ n) : (ρ.set n a) m = ρ m := by
  simp only [AEnv.set, beq_eq_false_iff_ne.mpr h, Bool.false_eq_true, ↓reduceIte]

/-- the abstract environment with `n` re-described: what is asked of the concrete one -/
theorem Rel.of_set {env' : Env} {n : String} {a : AV} (hn : ∀ val, env'.get? n = some val → AVsem A tv a val)
    (hne : ∀ m, m ≠ n → ∀ val, env'.get? m = some val → AVsem A tv (ρ m) val) : Rel A tv (ρ.set n a) env' := by
  intro m val hm
  by_cases hmn : m = n
  · subst hmn; rw [AEnv.set_self]; exact hn val hm
  · rw [AEnv.set_ne ρ a hmn]; exact hne m hmn val hm

theorem Rel.set {A : ACtx} {tv : Targets} {ρ : AEnv} {env : Env} (h : Rel A tv ρ env) (n : String) (a : AV) (v : Val)
    (hv : AVsem A tv a v) : Rel A tv (ρ.set n a) (env.set n v) :=
  Rel.of_set (fun val hm => by rw [Env.get?_set_self] at hm; cases hm; exact hv)
    fun m hmn val hm => h m val (Env.get?_set_ne env v hmn ▸ hm)

/-- for a binding put in front: a parameter, a package-level value -/
theorem Rel.cons (h : Rel A tv ρ env) (n : String) (a : AV) (v : Val)
    (hv : AVsem A tv a v) : Rel A tv (ρ.set n a) ((n, v) :: env) :=
  Rel.of_set (fun val hm => by rw [Env.get?_cons, beq_self_eq_true, if_pos rfl] at hm; cases hm; exact hv)
    fun m hmn val hm => by
      rw [Env.get?_cons, beq_eq_false_iff_ne.mpr (Ne.symm hmn), if_neg Bool.false_ne_true] at hm; exact h m val hm

/-- **frame** for `Rel`: only the variables of which something is claimed need keep their values -/
theorem Rel.frame {env' : Env} (h : Rel A tv ρ env) (hf : ∀ n, ρ n ≠ .other → env'.get? n = env.get? n) :
    Rel A tv ρ env' := by
  intro n val hn
  by_cases ho : ρ n = .other
  · rw [ho]; trivial
  · exact h n val (hf n ho ▸ hn)

theorem Rel.set_other (h : Rel A tv ρ env) (n : String) (hn : ρ n = .other) (v : Val) : Rel A tv ρ (env.set n v) :=
  h.frame fun _ hm => Env.get?_set_ne env v fun e => hm (e ▸ hn)

theorem Rel.forget (A : ACtx) (tv : Targets) (env : Env) : Rel A tv forget env := fun _ _ _ => trivial

theorem cleanB_iff (s : Bytes) : cleanB s = true ↔ Clean s := by
  unfold cleanB Clean
  simp only [List.all_eq_true, Bool.not_eq_true']

theorem isCleanLit_spec {e : Expr} (h : isCleanLit e = true) : ∃ s, e = .str s ∧ Clean s := by
  cases e <;> simp only [isCleanLit] at h <;> try cases h
  rename_i s
  exact ⟨s, rfl, (cleanB_iff s).mp h⟩

theorem isSepLit_spec {e : Expr} (h : isSepLit e = true) : ∃ s, e = .str s ∧ (s ≠ [] ∧ Clean s) := by
  cases e <;> simp only [isSepLit] at h <;> try cases h
  rename_i s
  simp only [Bool.and_eq_true, Bool.not_eq_true', List.isEmpty_eq_false_iff] at h
  exact ⟨s, rfl, h.2, (cleanB_iff s).mp h.1⟩

theorem evalArgs_lits {P : Bytes → Prop} {isLit : Expr → Bool}
    (hlit : ∀ {e}, isLit e = true → ∃ s, e = .str s ∧ P s) :
    ∀ (es : List Expr) (k : Nat) (vs : List Val), es.all isLit = true → evalArgs c k env es = some vs →
      ∃ l : List Bytes, vs = l.map Val.str ∧ ∀ s ∈ l, P s := by
  intro es
  induction es with
  | nil => intro k vs _ h; exact ⟨[], evalArgs_nil_inv h, fun _ hs => nomatch hs⟩
  | cons e es ih =>
    intro k vs hall h
    obtain ⟨k, rfl⟩ := evalArgs_pos h
    obtain ⟨v, vs', h1, h2, rfl⟩ := evalArgs_cons_inv h
    rw [List.all_cons, Bool.and_eq_true] at hall
    obtain ⟨s, rfl, hs⟩ := hlit hall.1
    cases evalE_str h1
    obtain ⟨l, rfl, hl⟩ := ih k vs' hall.2 h2
    exact ⟨s :: l, rfl, List.forall_mem_cons.mpr ⟨hs, hl⟩⟩

theorem evalArgs_sepLit {lit : Expr} (hlit : isSepLit lit = true) {k : Nat} {vs : List Val}
    (h : evalArgs c k env [lit] = some vs) : ∃ sep, vs = [.str sep] ∧ sep ≠ [] ∧ Clean sep := by
  obtain ⟨sep, rfl, hsep⟩ := isSepLit_spec hlit
  obtain ⟨j, v, rfl, hv, rfl⟩ := evalArgs_one_inv h
  cases evalE_str hv
  exact ⟨sep, rfl, hsep⟩

theorem covOf_spec {e : Expr} {t : Target} (h : covOf ρ e = some t) : ∃ n, e = .var n ∧ ρ n = .covS t := by
  cases e <;> simp only [covOf] at h <;> try cases h
  rename_i n
  split at h
  · rename_i t' ht
    cases h
    exact ⟨n, rfl, ht⟩
  · cases h

/-!
Each builtin the analysis knows turns a string that vouches for a target (`covS`) into a string or a
list of strings that vouches for it too (`Vouches`, `VouchesL`). -/

abbrev Vouches (A : ACtx) (c : Ctx) (tv : Targets) (env : Env) (e : Expr) (t : Target) : Prop :=
  ∀ k v, evalE c k env e = some v → AVsem A tv (.covS t) v

abbrev VouchesL (A : ACtx) (c : Ctx) (tv : Targets) (env : Env) (e : Expr) (t : Target) : Prop :=
  ∀ k v, evalE c k env e = some v → AVsem A tv (.covL t) v

section sem
variable {e : Expr} {t : Target}

theorem covOf_sound (hR : Rel A tv ρ env) (h : covOf ρ e = some t) : Vouches A c tv env e t := by
  intro k v hv
  obtain ⟨n, rfl, hn⟩ := covOf_spec h
  have := hR n v (evalE_var hv)
  rwa [hn] at this

theorem evalE_call_covS {f : String} {rest : List Expr} (harg : Vouches A c tv env e t) {k : Nat} {val : Val}
    (h : evalE c k env (.call f (e :: rest)) = some val) :
    ∃ j s vs, (Clean s → Clean (tv.get t)) ∧ evalArgs c j env rest = some vs ∧
      callVal c (j + 1) f (.str s :: vs) = some val := by
  obtain ⟨k, rfl⟩ := evalE_pos h
  obtain ⟨vs, hvs, hval⟩ := evalE_call_inv h
  obtain ⟨j, rfl⟩ := evalArgs_pos hvs
  obtain ⟨v, vs', h1, h2, rfl⟩ := evalArgs_cons_inv hvs
  obtain ⟨s, rfl, hcov⟩ := harg _ v h1
  exact ⟨j, s, vs', hcov, h2, hval⟩

theorem sem_strs_lits {es : List Expr} (hall : es.all isCleanLit = true) {k : Nat} {val : Val}
    (h : evalE c k env (.strs es) = some val) : AVsem A tv .cleanL val := by
  obtain ⟨k, rfl⟩ := evalE_pos h
  obtain ⟨l, hl, rfl⟩ := evalE_strs_inv h
  obtain ⟨l', hl', hcl⟩ := evalArgs_lits isCleanLit_spec es k _ hall hl
  cases (List.map_inj_right fun _ _ => Val.str.inj).mp hl'
  exact ⟨l, rfl, hcl⟩

theorem sem_strs_one (harg : Vouches A c tv env e t) : VouchesL A c tv env (.strs [e]) t := by
  intro k val h
  obtain ⟨k, rfl⟩ := evalE_pos h
  obtain ⟨l, hl, rfl⟩ := evalE_strs_inv h
  obtain ⟨j, v, rfl, hv, hvs⟩ := evalArgs_one_inv hl
  obtain ⟨s, rfl, hcov⟩ := harg _ v hv
  match l, hvs with
  | [_], hvs =>
    cases hvs
    exact ⟨[s], rfl, fun hc => hcov (hc s List.mem_cons_self)⟩

theorem sem_splitValues (hlow : c.toLower = toLowerGo) (harg : Vouches A c tv env e t) :
    VouchesL A c tv env (.call "splitValues" [e]) t := by
  intro k val h
  obtain ⟨j, s, vs, hcov, hvs, hval⟩ := evalE_call_covS harg h
  cases evalArgs_nil_inv hvs
  rw [callVal_splitValues] at hval
  cases hval
  exact ⟨_, rfl, fun hc => hcov (clean_of_splitValues s (hlow ▸ hc))⟩

theorem sem_trimSpace (harg : Vouches A c tv env e t) : Vouches A c tv env (.call "strings.TrimSpace" [e]) t := by
  intro k val h
  obtain ⟨j, s, vs, hcov, hvs, hval⟩ := evalE_call_covS harg h
  cases evalArgs_nil_inv hvs
  rw [callVal_trimSpace] at hval
  cases hval
  exact ⟨_, rfl, fun hc => hcov (Keeps.clean (trimSpace_keeps s) hc)⟩

theorem sem_split {sepE : Expr} (hsep : isSepLit sepE = true) (harg : Vouches A c tv env e t) :
    VouchesL A c tv env (.call "strings.Split" [e, sepE]) t := by
  intro k val h
  obtain ⟨j, s, vs, hcov, hvs, hval⟩ := evalE_call_covS harg h
  obtain ⟨sep, rfl, hne, hcl⟩ := evalArgs_sepLit hsep hvs
  rw [callVal_split] at hval
  cases hval
  exact ⟨_, rfl, fun hc => hcov (clean_of_splitOn s sep hne hcl hc)⟩

theorem sem_trimSuffix {litE : Expr} (hlit : isSepLit litE = true) (harg : Vouches A c tv env e t) :
    Vouches A c tv env (.call "strings.TrimSuffix" [e, litE]) t := by
  intro k val h
  obtain ⟨j, s, vs, hcov, hvs, hval⟩ := evalE_call_covS harg h
  obtain ⟨suf, rfl, _, hcl⟩ := evalArgs_sepLit hlit hvs
  rw [callVal_trimSuffix] at hval
  cases hval
  exact ⟨_, rfl, fun hc => hcov (clean_of_trimSuffix s suf hcl hc)⟩

theorem sem_multiSplit {seps : List Expr} (hseps : seps.all isSepLit = true) (harg : Vouches A c tv env e t) :
    VouchesL A c tv env (.call "multiSplit" (e :: seps)) t := by
  intro k val h
  obtain ⟨j, s, vs, hcov, hvs, hval⟩ := evalE_call_covS harg h
  obtain ⟨l, rfl, hl⟩ := evalArgs_lits isSepLit_spec seps j vs hseps hvs
  rw [callVal_multiSplit] at hval
  cases hval
  exact ⟨_, rfl, fun hc => hcov (clean_of_multiSplit s l hl hc)⟩

theorem sem_reDelete {r : String} (hdel : ∀ re, c.regex? r = some re → ∀ s, Clean (deleteAll re s) → Clean s)
    (harg : Vouches A c tv env e t) : Vouches A c tv env (.reDelete r e) t := by
  intro k val h
  obtain ⟨k, rfl⟩ := evalE_pos h
  obtain ⟨s, re, hs, hre, rfl⟩ := evalE_reDelete_inv h
  obtain ⟨s', hs', hcov⟩ := harg _ _ hs
  cases hs'
  exact ⟨_, rfl, fun hc => hcov (hdel re hre s hc)⟩

/-- `covArg`: what vouches as the first argument of `strings.Split` — a variable, or
    `strings.TrimSuffix(variable, literal)` -/
theorem covArg_sound (hR : Rel A tv ρ env) (h : covArg ρ e = some t) : Vouches A c tv env e t := by
  unfold covArg at h
  split at h
  · split at h
    · rename_i hg
      simp only [Bool.and_eq_true, beq_iff_eq] at hg
      obtain ⟨rfl, hlit⟩ := hg
      exact sem_trimSuffix hlit (covOf_sound hR h)
    · cases h
  · exact covOf_sound hR h

end sem

section
variable (A : ACtx) (c : Ctx) (hlow : c.toLower = toLowerGo)
  (hdel : ∀ r ∈ A.inertRes, ∀ re, c.regex? r = some re → ∀ s, Clean (deleteAll re s) → Clean s)
  (tv : Targets) (ρ : AEnv) (env : Env) (hR : Rel A tv ρ env)

include hlow hdel hR in
theorem aeval_sound (e : Expr) (k : Nat) (val : Val) (h : evalE c k env e = some val) :
    AVsem A tv (aeval A ρ e) val := by
  have hcov : ∀ e t, covOf ρ e = some t → Vouches A c tv env e t := fun _ _ => covOf_sound hR
  cases e with
  | var n => exact hR n val (evalE_var h)
  | str s =>
    cases evalE_str h
    simp only [aeval]
    split
    · rename_i hc; exact ⟨s, rfl, (cleanB_iff s).mp hc⟩
    · trivial
  | strs es =>
    simp only [aeval]
    split
    · rename_i hall; exact sem_strs_lits hall h
    · split
      · split
        · rename_i t ht; exact sem_strs_one (hcov _ t ht) k val h
        · trivial
      · trivial
  | funcs names =>
    cases evalE_funcs h
    simp only [aeval]
    split
    · rename_i hall
      exact ⟨names, rfl, fun f hf => List.contains_iff_mem.mp (List.all_eq_true.mp hall f hf)⟩
    · trivial
  | bool b => exact ⟨b, evalE_bool h⟩
  | reDelete r e1 =>
    simp only [aeval]
    split
    · rename_i hr
      split
      · rename_i t ht; exact sem_reDelete (hdel r (List.contains_iff_mem.mp hr)) (hcov e1 t ht) k val h
      · trivial
    · trivial
  | call f args =>
    simp only [aeval]
    split
    · -- one argument
      split
      · rename_i hf
        cases eq_of_beq hf
        split
        · rename_i t ht; exact sem_splitValues hlow (hcov _ t ht) k val h
        · trivial
      · split
        · rename_i hf
          cases eq_of_beq hf
          split
          · rename_i t ht; exact sem_trimSpace (hcov _ t ht) k val h
          · trivial
        · trivial
    · -- a first argument and separators
      rename_i e1 seps _
      split
      · rename_i hcond
        simp only [Bool.and_eq_true, Bool.or_eq_true, beq_iff_eq] at hcond
        obtain ⟨hf, hseps⟩ := hcond
        -- `strings.Split(x, sep)` or `multiSplit(x, seps…)`, whatever vouches for `x`
        have hsplit : ∀ t, Vouches A c tv env e1 t → AVsem A tv (.covL t) val := by
          intro t harg
          rcases hf with ⟨rfl, hlen⟩ | rfl
          · match seps, hlen, hseps with
            | [sepE], _, hs =>
              exact sem_split (by simpa using hs) harg k val h
          · exact sem_multiSplit hseps harg k val h
        split
        · rename_i t ht; exact hsplit t (hcov e1 t ht)
        · split
          · split
            · rename_i t ht; exact hsplit t (covArg_sound hR ht)
            · trivial
          · trivial
      · split
        · rename_i hcond
          simp only [Bool.and_eq_true, beq_iff_eq] at hcond
          obtain ⟨⟨rfl, hlen⟩, hlits⟩ := hcond
          match seps, hlen, hlits with
          | [litE], _, hs =>
            have hlit : isSepLit litE = true := by simpa using hs
            split
            · rename_i t ht; exact sem_trimSuffix hlit (hcov e1 t ht) k val h
            · split
              · rename_i r e' _
                split
                · rename_i hr
                  split
                  · rename_i t ht
                    exact sem_trimSuffix hlit (sem_reDelete (hdel r (List.contains_iff_mem.mp hr)) (hcov e' t ht)) k val h
                  · trivial
                · trivial
              · trivial
        · trivial
    · trivial
  | _ => trivial

end

/-- what the analysis assumes of the context: Go's `strings.ToLower`; regexps named clean accept clean
    strings only; deleting the matches of a regexp named inert removes no hostile byte, and what it finds
    holds none -/
structure SoundCtx (A : ACtx) (c : Ctx) : Prop where
  lower : c.toLower = toLowerGo
  res : ∀ r ∈ A.closedRes, ∀ re, c.regex? r = some re → ∀ s, Re.matchBytes re s = true → Clean s
  inertDel : ∀ r ∈ A.inertRes, ∀ re, c.regex? r = some re → ∀ s, Clean (deleteAll re s) → Clean s
  inertFind : ∀ r ∈ A.inertRes, ∀ re, c.regex? r = some re → ∀ s, Clean (findString re s)

def CallsOK (A : ACtx) (c : Ctx) (k : Nat) : Prop :=
  ∀ f ∈ A.closedFns, ∀ j, j ≤ k → ∀ s, callFn c j f s = some true → Clean s

theorem CallsOK.mono {k k' : Nat} (h : CallsOK A c k) (hk : k' ≤ k) : CallsOK A c k' :=
  fun f hf j hj s hs => h f hf j (Nat.le_trans hj hk) s hs

theorem CallsOK.pred {k : Nat} (h : CallsOK A c k) : CallsOK A c (k - 1) := h.mono (Nat.sub_le _ _)

section atoms
variable (hS : SoundCtx A c) (hR : Rel A tv ρ env)

include hS hR in
/-- `aeval_sound` in the form the proofs below use: at an abstract value already known -/
theorem aeval_eq {e : Expr} {k : Nat} {val : Val} (h : evalE c k env e = some val) {a : AV} (ha : aeval A ρ e = a) :
    AVsem A tv a val :=
  ha ▸ aeval_sound A c hS.lower hS.inertDel tv ρ env hR e k val h

include hS hR in
theorem in_true {a b : Expr} {k : Nat} (h : evalE c k env (.call "in" [a, b]) = some (.bool true))
    (hb : aeval A ρ b = .cleanL) : ∃ j la, evalE c j env a = some (.strs la) ∧ CleanL la := by
  obtain ⟨k, rfl⟩ := evalE_pos h
  obtain ⟨vs, hvs, hval⟩ := evalE_call_inv h
  obtain ⟨j, va, vb, rfl, h1, h2, rfl⟩ := evalArgs_two_inv hvs
  obtain ⟨la, lb, rfl, rfl, hin⟩ := callVal_in_inv hval
  obtain ⟨lb', hlb, hcl⟩ := aeval_eq hS hR h2 hb
  cases hlb
  exact ⟨_, la, h1, cleanL_of_inList la lb (Val.bool.inj hin).symm hcl⟩

include hS hR in
theorem recursiveCheck_true {a b : Expr} {k : Nat} (hC : CallsOK A c (k - 1))
    (h : evalE c k env (.call "recursiveCheck" [a, b]) = some (.bool true))
    (hb : aeval A ρ b = .funcs) : ∃ j la, evalE c j env a = some (.strs la) ∧ CleanL la := by
  obtain ⟨k, rfl⟩ := evalE_pos h
  obtain ⟨vs, hvs, hval⟩ := evalE_call_inv h
  obtain ⟨j, va, vb, rfl, h1, h2, rfl⟩ := evalArgs_two_inv hvs
  obtain ⟨la, fs, rfl, rfl, hrc⟩ := callVal_recursiveCheck_inv hval
  obtain ⟨fs', hfs', hfs⟩ := aeval_eq hS hR h2 hb
  cases hfs'
  refine ⟨_, la, h1, cleanL_of_recursiveCheck _ ?_ la (Val.bool.inj hrc).symm⟩
  intro g hg x hx
  obtain ⟨fn, hfn, rfl⟩ := List.mem_map.mp hg
  exact hC fn (hfs fn hfn) _ (Nat.le_refl _) x (eq_of_beq hx)

theorem handler_true {f : String} {a : Expr} {k : Nat} (hC : CallsOK A c (k - 1))
    (h : evalE c k env (.handler f a) = some (.bool true)) (hf : A.closedFns.contains f = true) :
    ∃ j s, evalE c j env a = some (.str s) ∧ Clean s := by
  obtain ⟨k, rfl⟩ := evalE_pos h
  obtain ⟨s, b, hs, hcall, hb⟩ := evalE_handler_inv h
  cases hb
  exact ⟨k, s, hs, hC f (List.contains_iff_mem.mp hf) k (Nat.le_refl _) s hcall⟩

include hS in
theorem reMatch_true {r : String} {a : Expr} {k : Nat}
    (h : evalE c k env (.reMatch r a) = some (.bool true)) (hr : A.closedRes.contains r = true) :
    ∃ j s, evalE c j env a = some (.str s) ∧ Clean s := by
  obtain ⟨k, rfl⟩ := evalE_pos h
  obtain ⟨s, re, hs, hre, hb⟩ := evalE_reMatch_inv h
  exact ⟨k, s, hs, hS.res r (List.contains_iff_mem.mp hr) re hre s (Val.bool.inj hb).symm⟩

include hS hR in
theorem covS_clean {a : Expr} {t : Target} (ha : aeval A ρ a = .covS t) {j : Nat} {s : Bytes}
    (h : evalE c j env a = some (.str s)) (hs : Clean s) : Clean (tv.get t) := by
  obtain ⟨s', hs', hcov⟩ := aeval_eq hS hR h ha
  cases hs'
  exact hcov hs

include hS hR in
theorem covL_clean {a : Expr} {t : Target} (ha : aeval A ρ a = .covL t) {j : Nat} {l : List Bytes}
    (h : evalE c j env a = some (.strs l)) (hl : CleanL l) : Clean (tv.get t) := by
  obtain ⟨l', hl', hcov⟩ := aeval_eq hS hR h ha
  cases hl'
  exact hcov hl

include hS hR in
/-- `findEq`: `R.FindString(x) + lit == b` came out true, so `b` is what an inert regexp found followed by a
    clean literal -/
theorem findEq_true {a b : Expr} {t : Target} {k : Nat} (ha : findEq A ρ t a b = true)
    (h : evalE c k env (.bin "==" a b) = some (.bool true)) : Clean (tv.get t) := by
  unfold findEq at ha
  split at ha
  · rename_i op2 r x lit
    simp only [Bool.and_eq_true, beq_iff_eq] at ha
    obtain ⟨⟨⟨rfl, hr⟩, hlit⟩, hb⟩ := ha
    obtain ⟨k, rfl⟩ := evalE_pos h
    obtain ⟨va, vb, hva, hvb, hval⟩ := evalE_bin_inv (by decide) (by decide) h
    obtain ⟨k, rfl⟩ := evalE_pos hva
    obtain ⟨vf, vl, hvf, hvl, hplus⟩ := evalE_bin_inv (by decide) (by decide) hva
    obtain ⟨k, rfl⟩ := evalE_pos hvf
    obtain ⟨sx, re, _, hre, rfl⟩ := evalE_reFind_inv hvf
    cases evalE_str hvl
    cases hplus
    obtain ⟨y, rfl, hcov⟩ := aeval_eq hS hR hvb hb
    apply hcov
    rw [← eq_of_beq (Val.bool.inj (Option.some.inj hval))]
    exact clean_append.mpr ⟨hS.inertFind r (List.contains_iff_mem.mp hr) re hre sx, (cleanB_iff lit).mp hlit⟩
  · cases ha

end atoms

theorem aimp_sound (A : ACtx) (c : Ctx) (hS : SoundCtx A c) (tv : Targets) (ρ : AEnv) (env : Env) (hR : Rel A tv ρ env)
    (t : Target) : ∀ (k : Nat) (e : Expr), CallsOK A c (k - 1) → aimp A ρ t e = true →
      evalE c k env e = some (.bool true) → Clean (tv.get t) := by
  intro k
  induction k with
  | zero => intro e _ _ h; rw [evalE_zero] at h; cases h
  | succ k ih =>
  intro e hC ha h
  have hC' : CallsOK A c (k - 1) := CallsOK.pred hC
  cases e with
  | bool b =>
    cases evalE_bool h
    cases ha
  | var n =>
    simp only [aimp, beq_iff_eq] at ha
    have := hR n _ (evalE_var h)
    rw [ha] at this
    obtain ⟨b, hb, hcl⟩ := this
    exact hcl (Val.bool.inj hb).symm
  | call f args =>
    simp only [aimp] at ha
    split at ha
    · split at ha
      · rename_i hf
        cases eq_of_beq hf
        simp only [Bool.and_eq_true, beq_iff_eq] at ha
        obtain ⟨j, la, h1, hcl⟩ := in_true hS hR h ha.2
        exact covL_clean hS hR ha.1 h1 hcl
      · split at ha
        · rename_i hf
          cases eq_of_beq hf
          simp only [Bool.and_eq_true, beq_iff_eq] at ha
          obtain ⟨j, la, h1, hcl⟩ := recursiveCheck_true hS hR hC h ha.2
          exact covL_clean hS hR ha.1 h1 hcl
        · cases ha
    · cases ha
  | handler f a =>
    simp only [aimp, Bool.and_eq_true, beq_iff_eq] at ha
    obtain ⟨j, s, h1, hcl⟩ := handler_true hC h ha.2
    exact covS_clean hS hR ha.1 h1 hcl
  | reMatch r a =>
    simp only [aimp, Bool.and_eq_true, beq_iff_eq] at ha
    obtain ⟨j, s, h1, hcl⟩ := reMatch_true hS h ha.2
    exact covS_clean hS hR ha.1 h1 hcl
  | bin op a b =>
    simp only [aimp] at ha
    split at ha
    · rename_i hop
      cases eq_of_beq hop
      rw [Bool.or_eq_true] at ha
      rcases evalE_and_inv h with ⟨_, hv⟩ | ⟨hta, htb⟩
      · cases hv
      · exact ha.elim (ih a hC' · hta) (ih b hC' · htb)
    · split at ha
      · rename_i hop
        cases eq_of_beq hop
        rw [Bool.and_eq_true] at ha
        rcases evalE_or_inv h with ⟨hta, _⟩ | ⟨_, htb⟩
        · exact ih a hC' ha.1 hta
        · exact ih b hC' ha.2 htb
      · rename_i hand hor
        split at ha
        · rename_i heq
          cases eq_of_beq heq
          exact findEq_true hS hR ha h
        · cases ha
  | _ => simp [aimp] at ha

theorem aimpF_sound (hS : SoundCtx A c) (hR : Rel A tv ρ env) {t : Target} {k : Nat} {e : Expr}
    (hC : CallsOK A c (k - 1)) (ha : aimpF A ρ t e = true) (h : evalE c k env e = some (.bool false)) : Clean (tv.get t) := by
  unfold aimpF at ha
  split at ha
  · rename_i c'
    obtain ⟨k, rfl⟩ := evalE_pos h
    obtain ⟨b, hb, hv⟩ := evalE_not_inv h
    cases b
    · cases hv
    · exact aimp_sound A c hS tv ρ env hR t k c' (CallsOK.pred hC) ha hb
  · -- `x != lit` is false: `x` is the clean literal
    rename_i op n lit
    simp only [Bool.and_eq_true, beq_iff_eq] at ha
    obtain ⟨⟨rfl, hn⟩, hlit⟩ := ha
    obtain ⟨k, rfl⟩ := evalE_pos h
    obtain ⟨va, vb, hva, hvb, hval⟩ := evalE_bin_inv (by decide) (by decide) h
    cases evalE_str hvb
    have := hR n va (evalE_var hva)
    rw [hn] at this
    obtain ⟨s, rfl, hcov⟩ := this
    apply hcov
    have hne : (s != lit) = false := Val.bool.inj (Option.some.inj hval)
    rw [bne_eq_false_iff_eq.mp hne]
    exact (cleanB_iff lit).mp hlit
  · cases ha

def FactSem (env : Env) (f : Fact) : Prop :=
  ∃ l, env.get? f.1 = some (.strs l) ∧
    if f.2.2 = true then ∀ j s, f.2.1 ≤ j → l[j]? = some s → Clean s else ∀ s, l[f.2.1]? = some s → Clean s

def FactsHold (env : Env) (F : Facts) : Prop := ∀ f ∈ F, FactSem env f

theorem FactsHold.nil (env : Env) : FactsHold env [] := fun _ h => nomatch h

theorem FactsHold.append {env : Env} {F G : Facts} (hF : FactsHold env F) (hG : FactsHold env G) :
    FactsHold env (F ++ G) := by
  intro f hf
  rcases List.mem_append.mp hf with h | h
  · exact hF f h
  · exact hG f h

theorem factSem_elem {L : String} {i : Nat} :
    FactSem env (L, i, false) ↔ ∃ l, env.get? L = some (.strs l) ∧ ∀ s, l[i]? = some s → Clean s := Iff.rfl

theorem factSem_from {L : String} {i : Nat} :
    FactSem env (L, i, true) ↔ ∃ l, env.get? L = some (.strs l) ∧ ∀ j s, i ≤ j → l[j]? = some s → Clean s := Iff.rfl

theorem FactsHold.from {L : String} {l : List Bytes} {i : Nat}
    (hl : env.get? L = some (.strs l)) (h : CleanL (l.drop i)) : FactsHold env [(L, i, true)] := by
  intro f hf
  cases List.mem_singleton.mp hf
  refine factSem_from.mpr ⟨l, hl, fun j s hj hs => h s (List.mem_iff_getElem?.mpr ⟨j - i, ?_⟩)⟩
  rw [List.getElem?_drop, Nat.add_sub_cancel' hj]
  exact hs

theorem implied_sound {F : Facts} (h : FactsHold env F) (f : Fact) (hi : Fact.implied F f = true) :
    FactSem env f := by
  unfold Fact.implied at hi
  obtain ⟨g, hg, hc⟩ := List.any_eq_true.mp hi
  simp only [Bool.and_eq_true, beq_iff_eq] at hc
  obtain ⟨hname, hc⟩ := hc
  obtain ⟨l, hl, hsem⟩ := h g hg
  refine ⟨l, hname ▸ hl, ?_⟩
  by_cases hf : f.2.2 = true
  · simp only [hf, ↓reduceIte, Bool.and_eq_true, decide_eq_true_eq] at hc ⊢
    simp only [hc.1, ↓reduceIte] at hsem
    exact fun j s hj hs => hsem j s (Nat.le_trans hc.2 hj) hs
  · have hf' : f.2.2 = false := by simpa using hf
    simp only [hf', Bool.false_eq_true, ↓reduceIte, Bool.or_eq_true, Bool.and_eq_true, Bool.not_eq_true',
      beq_iff_eq, decide_eq_true_eq] at hc ⊢
    intro s hs
    rcases hc with ⟨hg2, hidx⟩ | ⟨hg2, hle⟩
    · simp only [hg2, Bool.false_eq_true, ↓reduceIte] at hsem
      exact hsem s (hidx ▸ hs)
    · simp only [hg2, ↓reduceIte] at hsem
      exact hsem _ s hle hs

theorem inter_sound {F G : Facts} (h : FactsHold env F ∨ FactsHold env G) :
    FactsHold env (Facts.inter F G) := by
  intro f hf
  rcases List.mem_append.mp hf with hf | hf <;> obtain ⟨hm, hi⟩ := List.mem_filter.mp hf
  · exact h.elim (· f hm) (implied_sound · f hi)
  · exact h.elim (implied_sound · f hi) (· f hm)

theorem coversAll_sound {F : Facts} (h : FactsHold env F) (L : String) (hc : coversAll F L = true) :
    ∃ l, env.get? L = some (.strs l) ∧ CleanL l := by
  unfold coversAll at hc
  obtain ⟨g, hg, hc⟩ := List.any_eq_true.mp hc
  simp only [Bool.and_eq_true, beq_iff_eq, List.all_eq_true, List.mem_range] at hc
  obtain ⟨⟨hname, hfrom⟩, hidx⟩ := hc
  obtain ⟨l, hl, hsem⟩ := h g hg
  simp only [hfrom, ↓reduceIte] at hsem
  rw [hname] at hl
  refine ⟨l, hl, fun s hs => ?_⟩
  obtain ⟨j, hj⟩ := List.mem_iff_getElem?.mp hs
  by_cases hlt : j < g.2.1
  · -- below the index the fact starts at, each element has a fact of its own
    obtain ⟨l', hl', hsem'⟩ := implied_sound h (L, j, false) (hidx j hlt)
    cases hl.symm.trans hl'
    simp only [Bool.false_eq_true, ↓reduceIte] at hsem'
    exact hsem' s hj
  · exact hsem j s (Nat.le_of_not_lt hlt) hj

theorem covered_sound {A : ACtx} {tv : Targets} {ρ : AEnv} {env : Env} {F : Facts} (h : FactsHold env F)
    (hR : Rel A tv ρ env) (t : Target) (hc : covered F ρ t = true) : Clean (tv.get t) := by
  unfold covered at hc
  obtain ⟨g, _, hc⟩ := List.any_eq_true.mp hc
  simp only [Bool.and_eq_true, beq_iff_eq] at hc
  obtain ⟨l, hl, hcl⟩ := coversAll_sound h g.1 hc.2
  have := hR g.1 _ hl
  rw [hc.1] at this
  obtain ⟨l', hl', hcov⟩ := this
  cases hl'
  exact hcov hcl

theorem FactsHold.set {env : Env} {F : Facts} (h : FactsHold env F) (n : String) (v : Val) :
    FactsHold (env.set n v) (F.filter fun g => g.1 != n) := by
  intro f hf
  obtain ⟨hm, hne⟩ := List.mem_filter.mp hf
  obtain ⟨l, hl, hsem⟩ := h f hm
  exact ⟨l, by rw [Env.get?_set_ne env v (bne_iff_ne.mp hne)]; exact hl, hsem⟩

theorem evalE_elemRef {a : Expr} {L : String} {i : Nat} (h : elemRef a = some (L, i))
    {k : Nat} {v : Val} (hv : evalE c k env a = some v) :
    ∃ l s, env.get? L = some (.strs l) ∧ l[i]? = some s ∧ v = .str s := by
  unfold elemRef at h
  split at h
  · split at h
    · cases h
    · cases h
      obtain ⟨k, rfl⟩ := evalE_pos hv
      obtain ⟨l, n, s, hl, hn, hs, rfl⟩ := evalE_index_inv hv
      cases evalE_int hn
      exact ⟨l, s, evalE_var hl, hs, rfl⟩
  · cases h

theorem evalE_listRef {a : Expr} {L : String} {k0 : Nat} (h : listRef a = some (L, k0))
    {k : Nat} {la : List Bytes} (hv : evalE c k env a = some (.strs la)) :
    ∃ l, env.get? L = some (.strs l) ∧ la = l.drop k0 := by
  unfold listRef at h
  split at h
  · cases h
    exact ⟨la, evalE_var hv, rfl⟩
  · split at h
    · cases h
    · cases h
      obtain ⟨k, rfl⟩ := evalE_pos hv
      obtain ⟨l, n, hl, hn, hla⟩ := evalE_sliceFrom_inv hv
      cases evalE_int hn
      exact ⟨l, evalE_var hl, Val.strs.inj hla⟩
  · cases h

theorem elemFacts_sound {a : Expr} {k : Nat} {s : Bytes} (hv : evalE c k env a = some (.str s))
    (hs : Clean s) : FactsHold env (match elemRef a with | some (L, i) => [(L, i, false)] | none => []) := by
  split
  · rename_i L i href
    obtain ⟨l, s', hl, hidx, hv'⟩ := evalE_elemRef href hv
    cases hv'
    intro f hf
    cases List.mem_singleton.mp hf
    refine factSem_elem.mpr ⟨l, hl, fun s' hs' => ?_⟩
    cases hidx.symm.trans hs'
    exact hs
  · exact FactsHold.nil env

theorem listArgFacts_sound {a : Expr} {k : Nat} {la : List Bytes}
    (hv : evalE c k env a = some (.strs la)) (hcl : CleanL la) : FactsHold env (listArgFacts a) := by
  unfold listArgFacts
  split
  · -- `[]string{L[i]}`
    rename_i e
    obtain ⟨k, rfl⟩ := evalE_pos hv
    obtain ⟨l', hl', hla⟩ := evalE_strs_inv hv
    cases hla
    obtain ⟨j, v, rfl, hv1, hvs⟩ := evalArgs_one_inv hl'
    match la, v, hvs with
    | [s], _, rfl => exact elemFacts_sound hv1 (hcl s List.mem_cons_self)
  · split
    · rename_i L k0 href
      obtain ⟨l, hl, rfl⟩ := evalE_listRef href hv
      exact FactsHold.from hl hcl
    · exact FactsHold.nil env

theorem lenBound_sound {op : String} {len n : Int} {pol : Bool} {k : Int} (hb : lenBound op n pol = some k)
    (hc : cmpInt op len n = some pol) : len ≤ k := by
  unfold lenBound at hb
  unfold cmpInt at hc
  cases pol <;> simp only [Bool.false_eq_true, ↓reduceIte] at hb <;> repeat' split at hb
  -- six operators give a bound: for each, what the comparison's outcome says is the bound
  all_goals try (cases hb; done)
  all_goals
    rename_i h
    cases eq_of_beq h
    cases hb
    simp only [Option.some.injEq, decide_eq_true_eq, decide_eq_false_iff_not, beq_iff_eq, bne_eq_false_iff_eq] at hc
    omega

theorem isListAV_sem {a : AV} {v : Val} (hl : isListAV a = true) (h : AVsem A tv a v) :
    ∃ l, v = .strs l := by
  cases a with
  | covL t => obtain ⟨l, hl, _⟩ := h; exact ⟨l, hl⟩
  | cleanL => obtain ⟨l, hl, _⟩ := h; exact ⟨l, hl⟩
  | _ => cases hl

theorem lenFacts_sound (hR : Rel A tv ρ env)
    {op : String} {a b : Expr} {pol : Bool} {k : Nat} (hand : (op == "&&") = false) (hor : (op == "||") = false)
    (h : evalE c (k + 1) env (.bin op a b) = some (.bool pol)) : FactsHold env (lenFacts ρ op a b pol) := by
  unfold lenFacts
  split
  · rename_i f L n
    split
    · rename_i hf
      simp only [Bool.and_eq_true, beq_iff_eq] at hf
      obtain ⟨rfl, hlist⟩ := hf
      split
      · -- `len(L) op n` came out as `pol`, so `len(L) ≤ kb`: no element at an index from `kb` on
        rename_i kb hkb
        obtain ⟨va, vb, hva, hvb, hval⟩ := evalE_bin_inv hand hor h
        cases evalE_int hvb
        obtain ⟨k, rfl⟩ := evalE_pos hva
        obtain ⟨vs, hvs, hlen⟩ := evalE_call_inv hva
        obtain ⟨j, v, rfl, hv, rfl⟩ := evalArgs_one_inv hvs
        have hget := evalE_var hv
        obtain ⟨l, rfl⟩ := isListAV_sem hlist (hR L v hget)
        rw [callVal_len] at hlen
        cases hlen
        obtain ⟨bb, hcmp, hbb⟩ := Option.map_eq_some_iff.mp hval
        cases hbb
        have hle := lenBound_sound hkb hcmp
        refine FactsHold.from hget fun s hs => ?_
        have : l.drop kb.toNat = [] := List.drop_eq_nil_of_le (by omega)
        rw [this] at hs
        cases hs
      · exact FactsHold.nil env
    · exact FactsHold.nil env
  · exact FactsHold.nil env

theorem facts_sound (A : ACtx) (c : Ctx) (hS : SoundCtx A c) (tv : Targets) (ρ : AEnv) (env : Env) (hR : Rel A tv ρ env) :
    ∀ (k : Nat) (e : Expr) (pol : Bool), CallsOK A c (k - 1) → evalE c k env e = some (.bool pol) →
      FactsHold env (facts A ρ pol e) := by
  intro k
  induction k with
  | zero => intro e pol _ h; rw [evalE_zero] at h; cases h
  | succ k ih =>
  intro e pol hC h
  have hC' : CallsOK A c (k - 1) := CallsOK.pred hC
  cases e with
  | not e' =>
    obtain ⟨b, hb, hv⟩ := evalE_not_inv h
    cases hv
    rw [facts, Bool.not_not]
    exact ih e' b hC' hb
  | bin op a b =>
    simp only [facts]
    split
    · rename_i hop
      cases eq_of_beq hop
      rcases evalE_and_inv h with ⟨ha, hv⟩ | ⟨ha, hb⟩
      · cases hv
        exact inter_sound (.inl (ih a false hC' ha))
      · cases pol
        · exact inter_sound (.inr (ih b false hC' hb))
        · exact (ih a true hC' ha).append (ih b true hC' hb)
    · split
      · rename_i hop
        cases eq_of_beq hop
        rcases evalE_or_inv h with ⟨ha, hv⟩ | ⟨ha, hb⟩
        · cases hv
          exact inter_sound (.inl (ih a true hC' ha))
        · cases pol
          · exact (ih a false hC' ha).append (ih b false hC' hb)
          · exact inter_sound (.inr (ih b true hC' hb))
      · rename_i hand hor
        exact lenFacts_sound hR (Bool.eq_false_iff.mpr hand) (Bool.eq_false_iff.mpr hor) h
  | handler f a =>
    cases pol with
    | false => exact FactsHold.nil env
    | true =>
      simp only [facts]
      split
      · rename_i hf
        obtain ⟨j, s, hs, hcl⟩ := handler_true hC h hf
        exact elemFacts_sound hs hcl
      · exact FactsHold.nil env
  | reMatch r a =>
    cases pol with
    | false => exact FactsHold.nil env
    | true =>
      simp only [facts]
      split
      · rename_i hr
        obtain ⟨j, s, hs, hcl⟩ := reMatch_true hS h hr
        exact elemFacts_sound hs hcl
      · exact FactsHold.nil env
  | call f args =>
    match args, pol with
    | [], _ | [_], _ | _ :: _ :: _ :: _, _ | [_, _], false => cases pol <;> exact FactsHold.nil env
    | [a, b], true =>
        simp only [facts]
        split
        · rename_i hf
          cases eq_of_beq hf
          split
          · rename_i hb
            obtain ⟨j, la, h1, hcl⟩ := in_true hS hR h (eq_of_beq hb)
            exact listArgFacts_sound h1 hcl
          · exact FactsHold.nil env
        · split
          · rename_i hf
            cases eq_of_beq hf
            split
            · rename_i hb
              obtain ⟨j, la, h1, hcl⟩ := recursiveCheck_true hS hR hC h (eq_of_beq hb)
              exact listArgFacts_sound h1 hcl
            · exact FactsHold.nil env
          · exact FactsHold.nil env
  | _ => cases pol <;> exact FactsHold.nil env

end BM.Golite
