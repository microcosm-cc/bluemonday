import BM.Proofs.Next
/-
  Re-reading a rendered comment.  `Token.String` writes a comment as `<!--` + escapeComment(data) + `-->`;
  `escapeComment` turns every `>` that could end a comment early — the first byte, or one preceded by `-` or
  `!` — into `&gt;`.  `readComment_rendered`: the tokenizer's comment state machine, started on such a rendering,
  runs through the escaped data without stopping and ends exactly at the final `-->`, whatever follows.  The data
  that comes back is `rereadComment d` (entities decoded again, CR turned into LF, NUL replaced): an exact round
  trip does not hold for comments (a CR byte in the data comes back as LF).
-/
namespace BM.Html

/-- no `>` of `s` could end a comment: each one has a byte before it (`q` before the first byte of
    `s`) that is neither `!` nor `-` -/
def NoTerm : Option UInt8 → Bytes → Prop
  | _, [] => True
  | q, c :: cs => (c = 62 → ∃ qb, q = some qb ∧ qb ≠ 33 ∧ qb ≠ 45) ∧ NoTerm (some c) cs

/-- `p` the last input byte `escapeCommentAux` has seen, `q` the last byte it has written -/
def EscRel : Option UInt8 → Option UInt8 → Prop
  | none, none => True
  | some pb, some qb => (qb = 33 ∨ qb = 45) → pb = qb
  | _, _ => False

/-- an entity — bytes other than `>`, then `;` — can go in front -/
theorem noTerm_entity (q : Option UInt8) (l s : Bytes) (hl : ∀ c ∈ l, c ≠ 62) (h : NoTerm (some 59) s) :
    NoTerm q (l ++ 59 :: s) := by
  induction l generalizing q with
  | nil => exact ⟨fun e => absurd e (by decide), h⟩
  | cons c cs ih =>
    exact ⟨fun e => absurd e (hl c (List.mem_cons_self ..)), ih _ fun x hx => hl x (List.mem_cons_of_mem _ hx)⟩

theorem escapeComment_noTerm (s : Bytes) : ∀ p q, EscRel p q → NoTerm q (escapeCommentAux p s) := by
  induction s with
  | nil => intro p q _; simp [escapeCommentAux, NoTerm]
  | cons c cs ih =>
    intro p q hr
    unfold escapeCommentAux
    have hsemi : ∀ x : UInt8, EscRel (some x) (some 59) := by
      intro x h; rcases h with h | h <;> cases h
    by_cases h38 : c = 38
    · subst h38
      exact noTerm_entity q [38, 97, 109, 112] _ (by decide) (ih _ _ (hsemi 38))
    · have h38' : (c == 38) = false := by simpa using h38
      simp only [h38', Bool.false_eq_true, ↓reduceIte]
      by_cases h62 : c = 62
      · subst h62
        simp only [beq_self_eq_true, ↓reduceIte]
        have hesc : NoTerm q (b!"&gt;" ++ escapeCommentAux (some 62) cs) :=
          noTerm_entity q [38, 103, 116] _ (by decide) (ih _ _ (hsemi 62))
        cases p with
        | none => exact hesc
        | some pb =>
          simp only
          split
          · -- the `>` is written as it is: the byte before it, read and written, is neither `!` nor `-`
            rename_i hpb
            simp only [Bool.and_eq_true, bne_iff_ne, ne_eq] at hpb
            cases q with
            | none => exact hr.elim
            | some qb =>
              refine ⟨fun _ => ⟨qb, rfl, fun h => hpb.1 (h ▸ hr (.inl h)), fun h => hpb.2 (h ▸ hr (.inr h))⟩, ih _ _ ?_⟩
              intro h; rcases h with h | h <;> cases h
          · exact hesc
      · have h62' : (c == 62) = false := by simpa using h62
        simp only [h62', Bool.false_eq_true, ↓reduceIte]
        exact ⟨fun h => absurd h h62, ih _ _ fun _ => rfl⟩

theorem readComment_terminator (all rest : Bytes) (pos dash : Nat) (beg : Bool) (fuel : Nat) (hf : 3 ≤ fuel) :
    readCommentAux all fuel (45 :: 45 :: 62 :: rest) pos dash beg = (all.take pos, rest) := by
  match fuel, hf with
  | f + 3, _ =>
    simp [readCommentAux]

theorem readCommentAux_dash {all cs : Bytes} {f pos dash : Nat} {beg : Bool} :
    readCommentAux all (f + 1) (45 :: cs) pos dash beg = readCommentAux all f cs (pos + 1) (dash + 1) beg := rfl

theorem readCommentAux_gt {all cs : Bytes} {f pos : Nat} :
    readCommentAux all (f + 1) (62 :: cs) pos 0 false = readCommentAux all f cs (pos + 1) 0 false := rfl

theorem readCommentAux_bang {all cs : Bytes} {c2 : UInt8} {f pos dash : Nat} {beg : Bool} (hd : 2 ≤ dash) (h62 : c2 ≠ 62) :
    readCommentAux all (f + 1) (33 :: c2 :: cs) pos dash beg =
      readCommentAux all f cs (pos + 2) (if c2 == 45 then 1 else 0) false := by
  have h62' : (c2 == 62) = false := beq_eq_false_iff_ne.mpr h62
  by_cases h45 : c2 = 45 <;> simp [readCommentAux, hd, h62', h45]

theorem readCommentAux_other {all cs : Bytes} {c : UInt8} {f pos dash : Nat} {beg : Bool} (h45 : c ≠ 45) (h62 : c ≠ 62)
    (hb : ¬(c = 33 ∧ 2 ≤ dash)) :
    readCommentAux all (f + 1) (c :: cs) pos dash beg = readCommentAux all f cs (pos + 1) 0 false := by
  have hb' : (c == 33 && decide (dash ≥ 2)) = false := by simpa using hb
  simp [readCommentAux, h45, h62, hb']

/-- `all` and `pos` are arbitrary: the machine reads `all` only when it returns (`all.take (pos - 2)` in the model,
    `pos` then standing behind the `-->`, hence `all.take (pos + s.length)` here).
    Induction on the fuel: every call of the machine, the one after the look-ahead included, uses one unit. -/
theorem readCommentAux_run (all rest : Bytes) : ∀ (fuel : Nat) (s : Bytes) (q : Option UInt8) (pos dash : Nat)
    (beg : Bool), NoTerm q s → (0 < dash → q = some 45) → (beg = true → q = none ∨ q = some 45) →
    s.length + 4 ≤ fuel →
    readCommentAux all fuel (s ++ (45 :: 45 :: 62 :: rest)) pos dash beg = (all.take (pos + s.length), rest) := by
  intro fuel
  induction fuel with
  | zero => intro s _ _ _ _ _ _ _ hf; omega
  | succ f ih =>
    intro s q pos dash beg hnt hd hb hf
    -- the machine after `k` more bytes, in whatever state
    have step : ∀ (s' : Bytes) (k : Nat) (q' : Option UInt8) (d' : Nat) (b' : Bool), s'.length + 4 ≤ f →
        NoTerm q' s' → (0 < d' → q' = some 45) → (b' = true → q' = none ∨ q' = some 45) →
        readCommentAux all f (s' ++ 45 :: 45 :: 62 :: rest) (pos + k) d' b' =
          (all.take (pos + (s'.length + k)), rest) := by
      intro s' k q' d' b' hl h1 h2 h3
      rw [ih s' q' (pos + k) d' b' h1 h2 h3 hl]
      congr 2; omega
    cases s with
    | nil => rw [List.nil_append, readComment_terminator _ _ _ _ _ _ (by omega)]; rfl
    | cons c cs =>
      simp only [List.length_cons] at hf
      obtain ⟨hc62, hnt'⟩ := hnt
      rw [List.cons_append, List.length_cons]
      by_cases h45 : c = 45
      · subst h45
        rw [readCommentAux_dash]
        exact step cs 1 (some 45) _ _ (by omega) hnt' (fun _ => rfl) (fun _ => .inr rfl)
      · -- an ordinary byte: dash 0, no longer at the beginning
        have hcont := step cs 1 (some c) 0 false (by omega) hnt' (fun h => absurd h (Nat.lt_irrefl 0)) nofun
        by_cases h62 : c = 62
        · -- a `>` in the data: the byte before it is neither `-` nor `!`, so the machine is in neither
          -- of the states in which `>` ends the comment
          subst h62
          obtain ⟨qb, hq, _, hq45⟩ := hc62 rfl
          have hq' : q ≠ some 45 := fun h => hq45 (Option.some.inj (hq.symm.trans h))
          have hdash : dash = 0 := Nat.eq_zero_of_not_pos fun h => hq' (hd h)
          have hbeg : beg = false := by
            cases beg with
            | false => rfl
            | true => exact ((hb rfl).elim (fun h => by rw [hq] at h; cases h) hq').elim
          rw [hdash, hbeg, readCommentAux_gt]
          exact hcont
        · by_cases hbang : c = 33 ∧ 2 ≤ dash
          · -- `--!`: the machine looks one byte ahead
            obtain ⟨rfl, hd2⟩ := hbang
            cases cs with
            | nil =>
              -- the `!` is the last byte of the data: the look-ahead takes the first `-` of the terminator
              obtain ⟨g, rfl⟩ : ∃ g, f = g + 2 := ⟨f - 2, by simp at hf; omega⟩
              simp [readCommentAux, hd2]
            | cons c2 cs2 =>
              obtain ⟨hc2, hnt2⟩ := hnt'
              have hc2' : c2 ≠ 62 := fun h => by obtain ⟨qb, hqb, hne, _⟩ := hc2 h; cases hqb; exact hne rfl
              rw [List.cons_append, readCommentAux_bang hd2 hc2']
              exact step cs2 2 (some c2) _ false (by simp only [List.length_cons] at hf; omega) hnt2
                (fun h => by by_cases e : c2 = 45 <;> simp [e] at h ⊢) nofun
          · rw [readCommentAux_other h45 h62 hbang]
            exact hcont

theorem readComment_rendered0 (s pre rest : Bytes) (q : Option UInt8) (dash : Nat) (beg : Bool) (fuel : Nat)
    (h1 : NoTerm q s) (h2 : 0 < dash → q = some 45) (h3 : beg = true → q = none ∨ q = some 45)
    (h4 : s.length + 4 ≤ fuel) :
    readCommentAux (pre ++ (s ++ (45 :: 45 :: 62 :: rest))) fuel (s ++ (45 :: 45 :: 62 :: rest)) pre.length dash beg =
      (pre ++ s, rest) := by
  rw [readCommentAux_run _ rest fuel s q _ dash beg h1 h2 h3 h4, ← List.append_assoc, ← List.length_append,
    List.take_left']
  rfl

theorem readComment_rendered : ∀ (n : Nat) (s : Bytes), s.length ≤ n →
    ∀ (pre rest : Bytes) (q : Option UInt8) (dash : Nat) (beg : Bool) (fuel : Nat),
      NoTerm q s → (0 < dash → q = some 45) → (beg = true → q = none ∨ q = some 45) →
      s.length + 4 ≤ fuel →
      readCommentAux (pre ++ (s ++ (45 :: 45 :: 62 :: rest))) fuel (s ++ (45 :: 45 :: 62 :: rest)) pre.length dash beg =
        (pre ++ s, rest) :=
  fun _ s _ pre rest q dash beg fuel => readComment_rendered0 s pre rest q dash beg fuel

/-- the data of a comment as the tokenizer hands it back after a render / tokenize round trip -/
def rereadComment (d : Bytes) : Bytes := textData (escapeComment d) true false

theorem next_comment (d rest : Bytes) :
    next [] (b!"<!--" ++ escapeComment d ++ b!"-->" ++ rest) = some (⟨.comment, rereadComment d, []⟩, [], rest) ∧
    isMarkupStart (b!"<!--" ++ escapeComment d ++ b!"-->" ++ rest) = true := by
  have hshape : b!"<!--" ++ escapeComment d ++ b!"-->" ++ rest =
      60 :: 33 :: 45 :: 45 :: (escapeComment d ++ (45 :: 45 :: 62 :: rest)) := by
    simp [List.append_assoc]
  rw [hshape]
  refine ⟨?_, by simp [isMarkupStart]⟩
  have hrc : readComment (escapeComment d ++ (45 :: 45 :: 62 :: rest)) = (escapeComment d, rest) := by
    unfold readComment
    have := readComment_rendered0 (escapeComment d) [] rest none 0 true
      ((escapeComment d ++ (45 :: 45 :: 62 :: rest)).length + 1)
      (escapeComment_noTerm d none none trivial) (fun h => absurd h (Nat.lt_irrefl 0)) (fun _ => .inl rfl)
      (by simp only [List.length_append, List.length_cons]; omega)
    simpa using this
  rw [next_data (List.cons_ne_nil _ _), dataStep_bang]
  simp only [readMarkupDeclaration, beq_self_eq_true, Bool.and_self, ↓reduceIte, hrc, rereadComment]
  rfl

end BM.Html
