import BM.Proofs.Builder
/-
  The tables of a policy that builder calls only add to, read as *sets of contributions* (C17): the
  attribute and style rules by element name, by element pattern and global, the element and pattern
  tables themselves, the two "allowed without attributes" sets and the scheme patterns.  For every
  history of builder calls on an initialised policy, what a table holds afterwards is what it held
  before plus what each call of the history contributes — a statement whose right-hand side does not
  mention the order of the calls, nor (beyond `strings.ToLower`) the spelling of their names.
  Accumulation, order independence and case independence are corollaries (Props/C17).

  One lemma per table for one builder call (`… : Adds d …`), collected under one index (`TableFact`,
  `tables_adds`), then the lift to histories (`tables_applyOps`).  A table keyed by pattern identity
  is read as a Go map keyed by the identity (`patKey`), so the map lemmas serve both kinds of key.
  `d` is the default CSS handler (`css.GetDefaultHandler`), which `AllowStyles` without `Matching…` installs.
-/
namespace BM

/-! ### the tables keyed by element name, the global ones and the set of bare elements -/

/-- `m[k]` of a Go map of slices: nil when absent -/
def rulesOf {α : Type} (m : Map Bytes (List α)) (k : Bytes) : List α := (m.get? k).getD []

/-- value patterns registered for attribute `attr` on the explicitly named element `el` -/
def Policy.elemRules (p : Policy) (el attr : Bytes) : List AttrPolicy :=
  rulesOf (rulesOf p.elsAndAttrs el) attr

def Policy.globalRules (p : Policy) (attr : Bytes) : List AttrPolicy := rulesOf p.globalAttrs attr

def Policy.hasElem (p : Policy) (el : Bytes) : Prop := (p.elsAndAttrs.get? el).isSome = true

/-- style matchers registered for property `prop` on the explicitly named element `el` -/
def Policy.elemStyleRules (p : Policy) (el prop : Bytes) : List StylePolicy :=
  rulesOf (rulesOf p.elsAndStyles el) prop

def Policy.globalStyleRules (p : Policy) (prop : Bytes) : List StylePolicy := rulesOf p.globalStyles prop

/- `BuilderOp.adds…` (here and after the pattern tables): what one call contributes to each table, the `Q` of `Adds`
   (Proofs/Builder). -/
def BuilderOp.addsElemRule (op : BuilderOp) (el attr : Bytes) (ap : AttrPolicy) : Prop :=
  match op with
  | .allowAttrs names re _ (.onElements els) =>
    el ∈ els.map toLowerName ∧ attr ∈ names.map toLowerName ∧ ap = re
  | _ => False

def BuilderOp.addsGlobalRule (op : BuilderOp) (attr : Bytes) (ap : AttrPolicy) : Prop :=
  match op with
  | .allowAttrs names re _ .globally => attr ∈ names.map toLowerName ∧ ap = re
  | _ => False

def BuilderOp.addsElem (op : BuilderOp) (el : Bytes) : Prop :=
  match op with
  | .allowElements names => el ∈ names.map toLowerName
  | .allowAttrs names _ allowEmpty (.onElements els) =>
    el ∈ els.map toLowerName ∧ (names ≠ [] ∨ allowEmpty = true)
  | _ => False

def BuilderOp.addsElemStyle (dflt : Bytes → Bytes → Bool) (op : BuilderOp) (el prop : Bytes) (sp : StylePolicy) : Prop :=
  match op with
  | .allowStyles names m (.onElements els) =>
    el ∈ els.map toLowerName ∧ prop ∈ names.map toLowerName ∧ sp = mkStylePolicy dflt m prop
  | _ => False

def BuilderOp.addsGlobalStyle (dflt : Bytes → Bytes → Bool) (op : BuilderOp) (prop : Bytes) (sp : StylePolicy) : Prop :=
  match op with
  | .allowStyles names m .globally => prop ∈ names.map toLowerName ∧ sp = mkStylePolicy dflt m prop
  | _ => False

theorem elemRules_congr {p q : Policy} (h : q.elsAndAttrs = p.elsAndAttrs) (el attr : Bytes) :
    q.elemRules el attr = p.elemRules el attr := by
  unfold Policy.elemRules; rw [h]

/-- `OnElements` of an attribute builder, for one element: a rule for every attribute name -/
theorem elemRules_attrsOnElement (p : Policy) (names : List Bytes) (re : AttrPolicy) (ae : Bool) (e el attr : Bytes)
    (x : AttrPolicy) :
    x ∈ (attrsOnElement p names re ae e).elemRules el attr ↔
      x ∈ p.elemRules el attr ∨ (e = el ∧ attr ∈ names ∧ x = re) := by
  have hfold := foldl_iff_mem (fun m a => Map.update m e [] fun r => addAttrRule r a re)
    (fun attr m => x ∈ Map.listAt (m.listAt el) attr) (fun _ => e = el ∧ x = re)
    (fun m a k => Map.mem_listAt_nested_add m e el a k re x) names p.elsAndAttrs attr
  rw [and_left_comm] at hfold
  refine Iff.trans ?_ hfold
  rw [attrsOnElement_eq]
  cases ae
  · exact Iff.rfl
  · exact iff_of_eq (congrArg (x ∈ Map.listAt · attr) (Map.listAt_update_id _ e el))

theorem adds_elemRules (d : Bytes → Bytes → Bool) (el attr : Bytes) (x : AttrPolicy) :
    Adds d (fun p => x ∈ p.elemRules el attr) (fun op => op.addsElemRule el attr x) := by
  intro p op
  cases op
  case' allowAttrs names re ae scope => cases scope
  case' allowStyles names m scope => cases scope
  case allowElements names =>
    -- registers the elements, with no rule
    simp only [BuilderOp.addsElemRule, or_false]
    refine foldl_inv _ (fun q => x ∈ q.elemRules el attr ↔ x ∈ p.elemRules el attr) (fun b a hb => ?_) names p Iff.rfl
    exact (iff_of_eq (congrArg (x ∈ Map.listAt · attr) (Map.listAt_update_id _ _ el))).trans hb
  case allowAttrs.onElements els =>
    exact foldl_iff_key _ toLowerName (fun el p => x ∈ p.elemRules el attr) (fun _ => attr ∈ names.map toLowerName ∧ x = re)
      (fun b a k => elemRules_attrsOnElement b _ re ae _ k attr x) els p el
  -- no other call writes the element table
  all_goals exact unchanged_of_eq (fun t => x ∈ rulesOf (rulesOf t el) attr) ((applyOpInit_frame d p _).elsAndAttrs rfl) id

theorem adds_globalRules (d : Bytes → Bytes → Bool) (attr : Bytes) (x : AttrPolicy) :
    Adds d (fun p => x ∈ p.globalRules attr) (fun op => op.addsGlobalRule attr x) := by
  intro p op
  cases op
  case' allowAttrs names re ae scope => cases scope
  case' allowStyles names m scope => cases scope
  case allowAttrs.globally =>
    refine foldl_iff_mem _ (fun attr (p : Policy) => x ∈ p.globalRules attr) (fun _ => x = re) (fun b a k => ?_)
      (names.map toLowerName) p attr
    exact Map.mem_listAt_add b.globalAttrs a k re x
  all_goals exact unchanged_of_eq (x ∈ rulesOf · attr) ((applyOpInit_frame d p _).globalAttrs rfl) id

theorem adds_elemStyleRules (d : Bytes → Bytes → Bool) (el prop : Bytes) (x : StylePolicy) :
    Adds d (fun p => x ∈ p.elemStyleRules el prop) (fun op => op.addsElemStyle d el prop x) := by
  intro p op
  cases op
  case' allowAttrs names re ae scope => cases scope
  case' allowStyles names m scope => cases scope
  case allowStyles.onElements els =>
    refine foldl_iff_key _ toLowerName (fun el p => x ∈ p.elemStyleRules el prop)
      (fun _ => prop ∈ names.map toLowerName ∧ x = mkStylePolicy d m prop) (fun b e k => ?_) els p el
    -- the inner loop, over the property names, for the element `e`
    rw [← and_left_comm]
    refine foldl_iff_mem _ (fun prop p => x ∈ p.elemStyleRules k prop) (fun prop => toLowerName e = k ∧ x = mkStylePolicy d m prop)
      (fun b a k' => ?_) (names.map toLowerName) b prop
    exact Map.mem_listAt_nested_add b.elsAndStyles (toLowerName e) k a k' (mkStylePolicy d m a) x
  all_goals exact unchanged_of_eq (fun t => x ∈ rulesOf (rulesOf t el) prop) ((applyOpInit_frame d p _).elsAndStyles rfl) id

theorem adds_globalStyleRules (d : Bytes → Bytes → Bool) (prop : Bytes) (x : StylePolicy) :
    Adds d (fun p => x ∈ p.globalStyleRules prop) (fun op => op.addsGlobalStyle d prop x) := by
  intro p op
  cases op
  case' allowAttrs names re ae scope => cases scope
  case' allowStyles names m scope => cases scope
  case allowStyles.globally =>
    refine foldl_iff_mem _ (fun prop (p : Policy) => x ∈ p.globalStyleRules prop) (fun prop => x = mkStylePolicy d m prop)
      (fun b a k => ?_) (names.map toLowerName) p prop
    exact Map.mem_listAt_add b.globalStyles a k (mkStylePolicy d m a) x
  all_goals exact unchanged_of_eq (x ∈ rulesOf · prop) ((applyOpInit_frame d p _).globalStyles rfl) id

theorem hasElem_attrsOnElement (p : Policy) (names : List Bytes) (re : AttrPolicy) (ae : Bool) (e el : Bytes) :
    (attrsOnElement p names re ae e).hasElem el ↔ p.hasElem el ∨ (e = el ∧ (names ≠ [] ∨ ae = true)) := by
  have hfold := foldl_iff (fun m a => Map.update m e [] fun r => addAttrRule r a re)
    (fun m => (m.get? el).isSome = true) (fun _ => e = el) (fun m a => Map.isSome_update m e el [] _) names p.elsAndAttrs
  rw [exists_mem_const] at hfold
  rw [attrsOnElement_eq]
  cases ae
  · simp only [Policy.hasElem, Bool.false_eq_true, or_false, ↓reduceIte]; exact hfold
  · simp only [Policy.hasElem, or_true, and_true, ↓reduceIte]
    rw [Map.isSome_update, hfold, or_and_or_left]

theorem adds_hasElem (d : Bytes → Bytes → Bool) (el : Bytes) :
    Adds d (fun p => p.hasElem el) (fun op => op.addsElem el) := by
  intro p op
  cases op
  case' allowAttrs names re ae scope => cases scope
  case' allowStyles names m scope => cases scope
  case allowElements names =>
    refine (foldl_iff _ (fun p : Policy => p.hasElem el) (fun n => toLowerName n = el) (fun b a => ?_) names p).trans
      (or_congr_right List.mem_map.symm)
    exact Map.isSome_update b.elsAndAttrs _ el [] id
  case allowAttrs.onElements els =>
    have h := foldl_iff_key (fun p e => attrsOnElement p (names.map toLowerName) re ae (toLowerName e)) toLowerName
      (fun el (p : Policy) => p.hasElem el) (fun _ => names.map toLowerName ≠ [] ∨ ae = true)
      (fun b a k => hasElem_attrsOnElement b _ re ae _ k) els p el
    rwa [ne_eq, List.map_eq_nil_iff] at h
  all_goals exact unchanged_of_eq (fun t => (Map.get? t el).isSome = true) ((applyOpInit_frame d p _).elsAndAttrs rfl) id

def Policy.bareOK (p : Policy) (el : Bytes) : Prop := el ∈ p.setOfElementsAllowedWithoutAttrs

def BuilderOp.addsBareOK (op : BuilderOp) (el : Bytes) : Prop :=
  match op with
  | .allowAttrs _ _ ae (.onElements els) => ae = true ∧ el ∈ els.map toLowerName
  | _ => False

theorem adds_bareOK (d : Bytes → Bytes → Bool) (el : Bytes) :
    Adds d (fun p => p.bareOK el) (fun op => op.addsBareOK el) := by
  intro p op
  cases op
  case' allowAttrs names re ae scope => cases scope
  case' allowStyles names m scope => cases scope
  case allowAttrs.onElements els =>
    simp only [BuilderOp.addsBareOK]
    rw [and_comm]
    refine foldl_iff_key _ toLowerName (fun el p => p.bareOK el) (fun _ => ae = true) (fun b e k => ?_) els p el
    rw [attrsOnElement_eq]
    cases ae
    · simp only [Policy.bareOK, Bool.false_eq_true, and_false, or_false, ↓reduceIte]
    · simp only [Policy.bareOK, mem_setInsert, and_true, ↓reduceIte]
  all_goals exact unchanged_of_eq (el ∈ ·) ((applyOpInit_frame d p _).setOfElementsAllowedWithoutAttrs rfl) id

/-! ### the tables keyed by pattern identity, the pattern set and the scheme patterns -/

def patKey {ν : Type} (m : List (Pat × ν)) : Map Nat ν := m.map fun e => (e.1.id, e.2)

theorem patGet?_eq {ν : Type} (m : List (Pat × ν)) (p : Pat) : patGet? m p = (patKey m).get? p.id := by
  induction m with
  | nil => rfl
  | cons e rest ih => simp only [patGet?, patKey, List.map_cons, Map.get?]; rw [ih]; rfl

theorem patKey_patSet {ν : Type} (m : List (Pat × ν)) (p : Pat) (v : ν) :
    patKey (patSet m p v) = (patKey m).set p.id v := by
  induction m with
  | nil => rfl
  | cons e rest ih =>
    simp only [patSet, patKey, List.map_cons, Map.set]
    split
    · rename_i h; rw [List.map_cons, beq_iff_eq.mp h]
    · rw [List.map_cons]; exact congrArg _ ih

theorem keys_patKey {ν : Type} (m : List (Pat × ν)) : (patKey m).map (·.1) = m.map (·.1.id) :=
  List.map_map

theorem patGet?_patSet {ν : Type} (m : List (Pat × ν)) (p q : Pat) (v : ν) :
    patGet? (patSet m p v) q = if p.id == q.id then some v else patGet? m q := by
  rw [patGet?_eq, patKey_patSet, Map.get?_set, ← patGet?_eq]

theorem Map.set_of_get? {κ ν : Type} [BEq κ] [LawfulBEq κ] (m : Map κ ν) (k : κ) (v : ν) (h : m.get? k = some v) :
    m.set k v = m := by
  induction m with
  | nil => cases h
  | cons e rest ih =>
    unfold Map.get? at h
    unfold Map.set
    split at h
    · rename_i hk; rw [if_pos hk, ← beq_iff_eq.mp hk, ← Option.some.inj h]
    · rename_i hk; rw [if_neg hk, ih h]

/-- "add the pattern with no rules unless it is there" is `m[r] = m[r]` with a default -/
theorem patKey_ensure {ν : Type} (m : List (Pat × ν)) (r : Pat) (dflt : ν) :
    patKey (if ((patKey m).get? r.id).isSome then m else patSet m r dflt) = (patKey m).update r.id dflt id := by
  unfold Map.update
  cases h : (patKey m).get? r.id with
  | none => exact patKey_patSet m r dflt
  | some v => exact (Map.set_of_get? _ _ _ h).symm

/-- value patterns registered for attribute `attr` on the elements matching pattern `r` -/
def Policy.matchRules (p : Policy) (r : Pat) (attr : Bytes) : List AttrPolicy :=
  rulesOf ((patGet? p.elsMatchingAndAttrs r).getD []) attr

def Policy.hasPattern (p : Policy) (r : Pat) : Prop := (patGet? p.elsMatchingAndAttrs r).isSome = true

/-- style matchers registered for property `prop` on the elements matching pattern `r` -/
def Policy.matchStyleRules (p : Policy) (r : Pat) (prop : Bytes) : List StylePolicy :=
  rulesOf ((patGet? p.elsMatchingAndStyles r).getD []) prop

def Policy.bareOKPattern (p : Policy) (id : Nat) : Prop := ∃ q ∈ p.setOfElementsMatchingAllowedWithoutAttrs, q.id = id
def Policy.schemePattern (p : Policy) (id : Nat) : Prop := ∃ q ∈ p.allowURLSchemeRegexps, q.id = id

def BuilderOp.addsMatchRule (op : BuilderOp) (r : Pat) (attr : Bytes) (ap : AttrPolicy) : Prop :=
  match op with
  | .allowAttrs names re _ (.onElementsMatching r') => r'.id = r.id ∧ attr ∈ names.map toLowerName ∧ ap = re
  | _ => False

def BuilderOp.addsPattern (op : BuilderOp) (r : Pat) : Prop :=
  match op with
  | .allowElementsMatching r' => r'.id = r.id
  | .allowAttrs names _ allowEmpty (.onElementsMatching r') => r'.id = r.id ∧ (names ≠ [] ∨ allowEmpty = true)
  | _ => False

def BuilderOp.addsMatchStyle (dflt : Bytes → Bytes → Bool) (op : BuilderOp) (r : Pat) (prop : Bytes) (sp : StylePolicy) : Prop :=
  match op with
  | .allowStyles names m (.onElementsMatching r') =>
    r'.id = r.id ∧ prop ∈ names.map toLowerName ∧ sp = mkStylePolicy dflt m prop
  | _ => False

def BuilderOp.addsBareOKPattern (op : BuilderOp) (id : Nat) : Prop :=
  match op with
  | .allowAttrs _ _ ae (.onElementsMatching r') => ae = true ∧ r'.id = id
  | _ => False

def BuilderOp.addsSchemePattern (op : BuilderOp) (id : Nat) : Prop :=
  match op with
  | .allowURLSchemesMatching r' => r'.id = id
  | _ => False

/-- one step of a loop that appends a rule for key `k` under pattern `r'` -/
theorem pat_add {α : Type} (m : List (Pat × Map Bytes (List α))) (r' r : Pat) (k k' : Bytes) (v x : α) :
    x ∈ rulesOf ((patGet? (patSet m r' (Map.update ((patGet? m r').getD []) k [] (· ++ [v]))) r).getD []) k' ↔
      x ∈ rulesOf ((patGet? m r).getD []) k' ∨ (k = k' ∧ r'.id = r.id ∧ x = v) := by
  simp only [patGet?_eq, patKey_patSet]
  exact Map.mem_listAt_nested_add (patKey m) r'.id r.id k k' v x

theorem adds_matchRules (d : Bytes → Bytes → Bool) (r : Pat) (attr : Bytes) (x : AttrPolicy) :
    Adds d (fun p => x ∈ p.matchRules r attr) (fun op => op.addsMatchRule r attr x) := by
  intro p op
  cases op
  case' allowAttrs names re ae scope => cases scope
  case' allowStyles names m scope => cases scope
  case allowElementsMatching r' =>
    simp only [applyOpInit, BuilderOp.addsMatchRule, or_false, Policy.matchRules, apply_ite Policy.elsMatchingAndAttrs,
      patGet?_eq, patKey_ensure]
    exact iff_of_eq (congrArg (x ∈ Map.listAt · attr) (Map.listAt_update_id _ _ _))
  case allowAttrs.onElementsMatching r' =>
    -- without `AllowNoAttrs` the call is the loop over the attribute names; with it, the pattern is registered as well
    have hloop : x ∈ (applyOpInit d p (.allowAttrs names re false (.onElementsMatching r'))).matchRules r attr ↔
        x ∈ p.matchRules r attr ∨ (r'.id = r.id ∧ attr ∈ names.map toLowerName ∧ x = re) := by
      rw [← and_left_comm]
      refine foldl_iff_mem _ (fun attr p => x ∈ p.matchRules r attr) (fun _ => r'.id = r.id ∧ x = re) (fun b a k => ?_)
        (names.map toLowerName) p attr
      exact pat_add b.elsMatchingAndAttrs r' r a k re x
    cases ae
    · exact hloop
    · refine Iff.trans ?_ hloop
      simp only [applyOpInit, Policy.matchRules, patGet?_eq, patKey_ensure, ↓reduceIte]
      exact iff_of_eq (congrArg (x ∈ Map.listAt · attr) (Map.listAt_update_id _ _ _))
  all_goals exact unchanged_of_eq (fun t => x ∈ rulesOf ((patGet? t r).getD []) attr) ((applyOpInit_frame d p _).elsMatchingAndAttrs rfl) id

theorem adds_hasPattern (d : Bytes → Bytes → Bool) (r : Pat) :
    Adds d (fun p => p.hasPattern r) (fun op => op.addsPattern r) := by
  intro p op
  cases op
  case' allowAttrs names re ae scope => cases scope
  case' allowStyles names m scope => cases scope
  case allowElementsMatching r' =>
    simp only [applyOpInit, BuilderOp.addsPattern, Policy.hasPattern, apply_ite Policy.elsMatchingAndAttrs, patGet?_eq,
      patKey_ensure]
    exact Map.isSome_update _ r'.id r.id [] id
  case allowAttrs.onElementsMatching r' =>
    have hloop : (applyOpInit d p (.allowAttrs names re false (.onElementsMatching r'))).hasPattern r ↔
        p.hasPattern r ∨ (r'.id = r.id ∧ names ≠ []) := by
      have hne : names.map toLowerName ≠ [] ↔ names ≠ [] := not_congr List.map_eq_nil_iff
      rw [← hne, ← exists_mem_const]
      refine foldl_iff _ (fun p => p.hasPattern r) (fun _ => r'.id = r.id) (fun b a => ?_) (names.map toLowerName) p
      simp only [Policy.hasPattern, patGet?_eq, patKey_patSet]
      exact Map.isSome_update (patKey b.elsMatchingAndAttrs) r'.id r.id [] fun c => addAttrRule c a re
    simp only [BuilderOp.addsPattern]
    cases ae
    · simp only [Bool.false_eq_true, or_false]; exact hloop
    · simp only [or_true, and_true]
      rw [← or_and_or_left (n := names ≠ []), ← hloop]
      simp only [applyOpInit, Policy.hasPattern, patGet?_eq, patKey_ensure, ↓reduceIte]
      exact Map.isSome_update _ r'.id r.id [] id
  all_goals exact unchanged_of_eq (fun t => (patGet? t r).isSome = true) ((applyOpInit_frame d p _).elsMatchingAndAttrs rfl) id

theorem adds_matchStyleRules (d : Bytes → Bytes → Bool) (r : Pat) (prop : Bytes) (x : StylePolicy) :
    Adds d (fun p => x ∈ p.matchStyleRules r prop) (fun op => op.addsMatchStyle d r prop x) := by
  intro p op
  cases op
  case' allowAttrs names re ae scope => cases scope
  case' allowStyles names m scope => cases scope
  case allowStyles.onElementsMatching r' =>
    simp only [BuilderOp.addsMatchStyle]
    rw [← and_left_comm]
    refine foldl_iff_mem _ (fun prop p => x ∈ p.matchStyleRules r prop) (fun prop => r'.id = r.id ∧ x = mkStylePolicy d m prop)
      (fun b a k => ?_) (names.map toLowerName) p prop
    exact pat_add b.elsMatchingAndStyles r' r a k (mkStylePolicy d m a) x
  all_goals exact unchanged_of_eq (fun t => x ∈ rulesOf ((patGet? t r).getD []) prop) ((applyOpInit_frame d p _).elsMatchingAndStyles rfl) id

theorem exists_append_map {α β : Type} (f : α → β) (l : List α) (a : α) (b : β) :
    (∃ q ∈ l ++ [a], f q = b) ↔ (∃ q ∈ l, f q = b) ∨ f a = b := by
  simp only [List.mem_append, List.mem_singleton, or_and_right, exists_or, exists_eq_left]

theorem adds_bareOKPattern (d : Bytes → Bytes → Bool) (id : Nat) :
    Adds d (fun p => p.bareOKPattern id) (fun op => op.addsBareOKPattern id) := by
  intro p op
  cases op
  case' allowAttrs names re ae scope => cases scope
  case' allowStyles names m scope => cases scope
  case allowAttrs.onElementsMatching r' =>
    cases ae
    all_goals
      simp only [applyOpInit, BuilderOp.addsBareOKPattern, Policy.bareOKPattern, exists_append_map Pat.id, Bool.false_eq_true,
        false_and, true_and, or_false, ↓reduceIte]
      -- the loop over the attribute names leaves the set alone
      rw [foldl_inv _ (fun q => q.setOfElementsMatchingAllowedWithoutAttrs = p.setOfElementsMatchingAllowedWithoutAttrs)
        (fun _ _ hb => ?_) _ p rfl]
      exact hb
  all_goals
    exact unchanged_of_eq (fun t : List Pat => ∃ q ∈ t, q.id = id)
      ((applyOpInit_frame d p _).setOfElementsMatchingAllowedWithoutAttrs rfl) fun h => h

theorem adds_schemePattern (d : Bytes → Bytes → Bool) (id : Nat) :
    Adds d (fun p => p.schemePattern id) (fun op => op.addsSchemePattern id) := by
  intro p op
  cases op
  case' allowAttrs names re ae scope => cases scope
  case' allowStyles names m scope => cases scope
  case allowURLSchemesMatching r' => exact exists_append_map Pat.id _ _ _
  all_goals
    exact unchanged_of_eq (fun t : List Pat => ∃ q ∈ t, q.id = id) ((applyOpInit_frame d p _).allowURLSchemeRegexps rfl) fun h => h

/-! ### all the tables under one index -/

/-- one fact a table can hold: the eleven readings with their indices -/
inductive TableFact
  | elemRule (el attr : Bytes) (x : AttrPolicy) | globalRule (attr : Bytes) (x : AttrPolicy) | elem (el : Bytes)
  | elemStyle (el prop : Bytes) (x : StylePolicy) | globalStyle (prop : Bytes) (x : StylePolicy)
  | matchRule (r : Pat) (attr : Bytes) (x : AttrPolicy) | pattern (r : Pat)
  | matchStyle (r : Pat) (prop : Bytes) (x : StylePolicy)
  | bareOK (el : Bytes) | bareOKPattern (id : Nat) | schemePattern (id : Nat)

def Policy.holds (p : Policy) : TableFact → Prop
  | .elemRule el attr x => x ∈ p.elemRules el attr
  | .globalRule attr x => x ∈ p.globalRules attr
  | .elem el => p.hasElem el
  | .elemStyle el prop x => x ∈ p.elemStyleRules el prop
  | .globalStyle prop x => x ∈ p.globalStyleRules prop
  | .matchRule r attr x => x ∈ p.matchRules r attr
  | .pattern r => p.hasPattern r
  | .matchStyle r prop x => x ∈ p.matchStyleRules r prop
  | .bareOK el => p.bareOK el
  | .bareOKPattern id => p.bareOKPattern id
  | .schemePattern id => p.schemePattern id

/-- what a builder call contributes to the tables -/
def BuilderOp.adds (d : Bytes → Bytes → Bool) (op : BuilderOp) : TableFact → Prop
  | .elemRule el attr x => op.addsElemRule el attr x
  | .globalRule attr x => op.addsGlobalRule attr x
  | .elem el => op.addsElem el
  | .elemStyle el prop x => op.addsElemStyle d el prop x
  | .globalStyle prop x => op.addsGlobalStyle d prop x
  | .matchRule r attr x => op.addsMatchRule r attr x
  | .pattern r => op.addsPattern r
  | .matchStyle r prop x => op.addsMatchStyle d r prop x
  | .bareOK el => op.addsBareOK el
  | .bareOKPattern id => op.addsBareOKPattern id
  | .schemePattern id => op.addsSchemePattern id

/-- **one call**: afterwards every table holds what it held plus what the call contributes -/
theorem tables_adds (d : Bytes → Bytes → Bool) : ∀ t : TableFact, Adds d (·.holds t) (·.adds d t)
  | .elemRule el attr x => adds_elemRules d el attr x
  | .globalRule attr x => adds_globalRules d attr x
  | .elem el => adds_hasElem d el
  | .elemStyle el prop x => adds_elemStyleRules d el prop x
  | .globalStyle prop x => adds_globalStyleRules d prop x
  | .matchRule r attr x => adds_matchRules d r attr x
  | .pattern r => adds_hasPattern d r
  | .matchStyle r prop x => adds_matchStyleRules d r prop x
  | .bareOK el => adds_bareOK d el
  | .bareOKPattern id => adds_bareOKPattern d id
  | .schemePattern id => adds_schemePattern d id

/-- **a history**: the tables hold what they held at the start plus what the calls contribute.  The right-hand
    side mentions the history only through `∃ op ∈ ops`: it is the same for every ordering of the same calls. -/
theorem tables_applyOps (d : Bytes → Bytes → Bool) (p : Policy) (hi : p.initialized = true) (ops : List BuilderOp)
    (t : TableFact) : (applyOps d p ops).holds t ↔ p.holds t ∨ ∃ op ∈ ops, op.adds d t :=
  (tables_adds d t).history p hi ops

/-- C17, the tables keyed by element name and the global ones -/
theorem rules_applyOps (d : Bytes → Bytes → Bool) (p : Policy) (hi : p.initialized = true) (ops : List BuilderOp) :
    (∀ el attr x, x ∈ (applyOps d p ops).elemRules el attr ↔
        x ∈ p.elemRules el attr ∨ ∃ op ∈ ops, op.addsElemRule el attr x) ∧
    (∀ attr x, x ∈ (applyOps d p ops).globalRules attr ↔
        x ∈ p.globalRules attr ∨ ∃ op ∈ ops, op.addsGlobalRule attr x) ∧
    (∀ el, (applyOps d p ops).hasElem el ↔ p.hasElem el ∨ ∃ op ∈ ops, op.addsElem el) ∧
    (∀ el prop x, x ∈ (applyOps d p ops).elemStyleRules el prop ↔
        x ∈ p.elemStyleRules el prop ∨ ∃ op ∈ ops, op.addsElemStyle d el prop x) ∧
    (∀ prop x, x ∈ (applyOps d p ops).globalStyleRules prop ↔
        x ∈ p.globalStyleRules prop ∨ ∃ op ∈ ops, op.addsGlobalStyle d prop x) :=
  ⟨fun el attr x => tables_applyOps d p hi ops (.elemRule el attr x),
   fun attr x => tables_applyOps d p hi ops (.globalRule attr x), fun el => tables_applyOps d p hi ops (.elem el),
   fun el prop x => tables_applyOps d p hi ops (.elemStyle el prop x),
   fun prop x => tables_applyOps d p hi ops (.globalStyle prop x)⟩

/-- C17, the tables keyed by element pattern, the "allowed without attributes" sets and the scheme patterns -/
theorem rules2_applyOps (d : Bytes → Bytes → Bool) (p : Policy) (hi : p.initialized = true) (ops : List BuilderOp) :
    (∀ r attr x, x ∈ (applyOps d p ops).matchRules r attr ↔
        x ∈ p.matchRules r attr ∨ ∃ op ∈ ops, op.addsMatchRule r attr x) ∧
    (∀ r, (applyOps d p ops).hasPattern r ↔ p.hasPattern r ∨ ∃ op ∈ ops, op.addsPattern r) ∧
    (∀ r prop x, x ∈ (applyOps d p ops).matchStyleRules r prop ↔
        x ∈ p.matchStyleRules r prop ∨ ∃ op ∈ ops, op.addsMatchStyle d r prop x) ∧
    (∀ el, (applyOps d p ops).bareOK el ↔ p.bareOK el ∨ ∃ op ∈ ops, op.addsBareOK el) ∧
    (∀ id, (applyOps d p ops).bareOKPattern id ↔ p.bareOKPattern id ∨ ∃ op ∈ ops, op.addsBareOKPattern id) ∧
    (∀ id, (applyOps d p ops).schemePattern id ↔ p.schemePattern id ∨ ∃ op ∈ ops, op.addsSchemePattern id) :=
  ⟨fun r attr x => tables_applyOps d p hi ops (.matchRule r attr x), fun r => tables_applyOps d p hi ops (.pattern r),
   fun r prop x => tables_applyOps d p hi ops (.matchStyle r prop x), fun el => tables_applyOps d p hi ops (.bareOK el),
   fun id => tables_applyOps d p hi ops (.bareOKPattern id), fun id => tables_applyOps d p hi ops (.schemePattern id)⟩

end BM
