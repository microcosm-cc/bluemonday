import BM.Proofs.RegexLemmas
/-
  Loop-free expressions have finitely many "class words" — one character class per position.
  `cwords` computes them (alternation = union, concatenation = product, `?` adds the empty word,
  anchors consume nothing); `cwords_sound`: whatever such an expression matches is spelt by one of
  its class words.  Used to state the documented *form* of the keyword matchers of helpers.go.
  For the matchers with loops: what `[class]*`, `[class]+` and `[class]?` consume.
-/
namespace BM.Re

abbrev CWord := List (List (Rune × Rune))

def cwords : Re → Option (List CWord)
  | .empty | .bot | .eot | .bol | .eol => some [[]]
  | .none => some []
  | .cls rs => some [[rs]]
  | .cat a b =>
    match cwords a, cwords b with
    | some wa, some wb => some (wa.flatMap fun x => wb.map fun y => x ++ y)
    | _, _ => .none
  | .alt a b =>
    match cwords a, cwords b with
    | some wa, some wb => some (wa ++ wb)
    | _, _ => .none
  | .quest a => (cwords a).map ([] :: ·)
  | .questL a => (cwords a).map ([] :: ·)
  | _ => .none

/-- the runes `s` are spelt by the class word `w` -/
def fits : List Rune → CWord → Bool
  | [], [] => true
  | c :: cs, rs :: w => inRanges c rs && fits cs w
  | _, _ => false

theorem fits_append (s1 : List Rune) (w1 : CWord) (s2 : List Rune) (w2 : CWord)
    (h1 : fits s1 w1 = true) (h2 : fits s2 w2 = true) : fits (s1 ++ s2) (w1 ++ w2) = true := by
  fun_induction fits s1 w1 with
  | case1 => exact h2
  | case2 c cs rs w ih =>
    rw [Bool.and_eq_true] at h1
    rw [List.cons_append, List.cons_append, fits, h1.1, ih h1.2]; rfl
  | case3 => cases h1

theorem cwords_sound {r : Re} {p s p' s'} (h : Matches r p s p' s') :
    ∀ ws, cwords r = some ws → ∃ w ∈ ws, ∃ pre, s = pre ++ s' ∧ fits pre w = true := by
  induction h with
  | empty | bot | eot | bol | eolNil | eolNL =>
    intro ws hw; cases hw
    exact ⟨[], List.mem_singleton_self _, [], rfl, rfl⟩
  | cls rs p c cs hin =>
    intro ws hw; cases hw
    exact ⟨[rs], List.mem_singleton_self _, [c], rfl, by simp [fits, hin]⟩
  | cat a b p s p1 s1 p2 s2 _ _ ih1 ih2 =>
    intro ws hw
    simp only [cwords] at hw
    split at hw
    · rename_i wa wb ha hb
      cases hw
      obtain ⟨w1, hw1, pre1, hs1, hf1⟩ := ih1 wa ha
      obtain ⟨w2, hw2, pre2, hs2, hf2⟩ := ih2 wb hb
      exact ⟨w1 ++ w2, List.mem_flatMap.mpr ⟨w1, hw1, List.mem_map.mpr ⟨w2, hw2, rfl⟩⟩, pre1 ++ pre2,
        by rw [hs1, hs2, List.append_assoc], fits_append _ _ _ _ hf1 hf2⟩
    · cases hw
  | altL a b p s p' s' _ ih | altR a b p s p' s' _ ih =>
    intro ws hw
    simp only [cwords] at hw
    split at hw
    · rename_i wa wb ha hb
      cases hw
      first
      | exact (ih wa ha).imp fun w h => ⟨List.mem_append_left _ h.1, h.2⟩
      | exact (ih wb hb).imp fun w h => ⟨List.mem_append_right _ h.1, h.2⟩
    · cases hw
  | quest0 a p s | questL0 a p s =>
    intro ws hw
    obtain ⟨wa, -, rfl⟩ := Option.map_eq_some_iff.mp hw
    exact ⟨[], List.mem_cons_self, [], rfl, rfl⟩
  | questS a p s p' s' _ ih | questLS a p s p' s' _ ih =>
    intro ws hw
    obtain ⟨wa, ha, rfl⟩ := Option.map_eq_some_iff.mp hw
    obtain ⟨w, hw1, hpre⟩ := ih wa ha
    exact ⟨w, List.mem_cons_of_mem _ hw1, hpre⟩
  | _ => intro ws hw; cases hw

theorem search_cwords {r : Re} {ws : List CWord} (ha : anchoredBoth r = true) (hws : cwords r = some ws)
    {s : List Rune} (h : search r s = true) : ∃ w ∈ ws, fits s w = true := by
  obtain ⟨p', hm⟩ := (search_anchored r ha s).mp h
  obtain ⟨w, hw, pre, hs, hfit⟩ := cwords_sound hm ws hws
  rw [List.append_nil] at hs
  exact ⟨w, hw, hs ▸ hfit⟩

/-- `[class]*` consumes a run of the class: `Matches.within` for the class as its own alphabet -/
theorem star_cls {rs : List (Rune × Rune)} {r : Re} {p s p' s'} (h : Matches r p s p' s') :
    r = .star (.cls rs) → ∃ pre, s = pre ++ s' ∧ ∀ c ∈ pre, inRanges c rs = true := by
  rintro rfl
  exact h.within (A := some rs) (all_rangeWithin_self rs)

theorem plus_cls {rs : List (Rune × Rune)} {p s p' s'} (h : Matches (.plus (.cls rs)) p s p' s') :
    ∃ c pre, s = c :: pre ++ s' ∧ inRanges c rs = true ∧ ∀ x ∈ pre, inRanges x rs = true := by
  obtain ⟨p1, s1, h1, h2⟩ := Matches.plus_iff.mp h
  obtain ⟨c, rfl, hin, -⟩ := Matches.cls_iff.mp h1
  obtain ⟨pre, rfl, hp⟩ := star_cls h2 rfl
  exact ⟨c, pre, rfl, hin, hp⟩

theorem plus_cls_run {rs : List (Rune × Rune)} {p s p' s'} (h : Matches (.plus (.cls rs)) p s p' s') :
    ∃ run, s = run ++ s' ∧ run ≠ [] ∧ ∀ x ∈ run, inRanges x rs = true := by
  obtain ⟨c, pre, hs, hc, hpre⟩ := plus_cls h
  exact ⟨c :: pre, hs, List.cons_ne_nil _ _, List.forall_mem_cons.mpr ⟨hc, hpre⟩⟩

theorem quest_cls {rs : List (Rune × Rune)} {p s p' s'} (h : Matches (.quest (.cls rs)) p s p' s') :
    ∃ pre, s = pre ++ s' ∧ (pre = [] ∨ ∃ c, inRanges c rs = true ∧ pre = [c]) := by
  rcases Matches.quest_iff.mp h with ⟨-, rfl⟩ | h
  · exact ⟨[], rfl, .inl rfl⟩
  · obtain ⟨c, rfl, hin, -⟩ := Matches.cls_iff.mp h
    exact ⟨[c], rfl, .inr ⟨c, hin, rfl⟩⟩

theorem search_bracket {body : Re} {s : List Rune} :
    search (.cat .bot (.cat body .eot)) s = true ↔ ∃ p', Matches body .none s p' [] := by
  rw [search_anchored _ rfl]
  constructor
  · rintro ⟨p', hm⟩
    obtain ⟨_, _, hbot, hrest⟩ := Matches.cat_iff.mp hm
    obtain ⟨-, rfl, rfl⟩ := Matches.bot_iff.mp hbot
    obtain ⟨p1, _, hbody, heot⟩ := Matches.cat_iff.mp hrest
    obtain ⟨rfl, -, -⟩ := Matches.eot_iff.mp heot
    exact ⟨p1, hbody⟩
  · rintro ⟨p', hm⟩
    exact ⟨p', .cat _ _ _ _ _ _ _ _ (.bot _ _ rfl) (.cat _ _ _ _ _ _ _ _ hm (.eot _ _ rfl))⟩

/-- the converse of `star_cls`: a run over the class is matched by `[class]*`, to its end -/
theorem star_cls_of_all (rs : List (Rune × Rune)) : ∀ (s : List Rune) (p : Option Rune),
    (∀ c ∈ s, inRanges c rs = true) → ∃ p', Matches (.star (.cls rs)) p s p' []
  | [], p, _ => ⟨p, .star0 _ _ _⟩
  | c :: cs, p, h => by
    obtain ⟨p', hm⟩ := star_cls_of_all rs cs (some c) (fun x hx => h x (List.mem_cons_of_mem _ hx))
    exact ⟨p', .starS _ _ _ _ _ _ _ (.cls rs p c cs (h c List.mem_cons_self)) (Nat.lt_succ_self _) hm⟩

theorem search_star_cls_iff {rs : List (Rune × Rune)} {s : List Rune} :
    search (.cat .bot (.cat (.star (.cls rs)) .eot)) s = true ↔ ∀ c ∈ s, inRanges c rs = true := by
  refine ⟨fun h => ?_, fun h => search_bracket.mpr (star_cls_of_all rs s .none h)⟩
  obtain ⟨p', hm⟩ := search_bracket.mp h
  obtain ⟨run, rfl, hrun⟩ := star_cls hm rfl
  rwa [List.append_nil]

theorem search_plus_cls_iff {rs : List (Rune × Rune)} {s : List Rune} :
    search (.cat .bot (.cat (.plus (.cls rs)) .eot)) s = true ↔ s ≠ [] ∧ ∀ c ∈ s, inRanges c rs = true := by
  refine ⟨fun h => ?_, fun ⟨hne, h⟩ => search_bracket.mpr ?_⟩
  · obtain ⟨p', hm⟩ := search_bracket.mp h
    obtain ⟨run, rfl, hrun⟩ := plus_cls_run hm
    rwa [List.append_nil]
  · cases s with
    | nil => exact absurd rfl hne
    | cons c cs =>
      obtain ⟨p', hm⟩ := star_cls_of_all rs cs (some c) (fun x hx => h x (List.mem_cons_of_mem _ hx))
      exact ⟨p', Matches.plus_iff.mpr ⟨_, _, .cls rs _ c cs (h c List.mem_cons_self), hm⟩⟩

end BM.Re
