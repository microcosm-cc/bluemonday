import BM.Css
/-
  UTF-8 decoding as the model does it (`decodeRune`, `decodeRunes`, `Css.runesByteLen`), one step at a
  time: how many bytes a step consumes, which of them can be ASCII, how decoding a string splits at a
  rune boundary, and that appended ASCII bytes leave it alone.  The first lemma, on `stripPrefix?`, is a fact
  about BM/Basic that both the CSS proofs and Props/C07b use; it stands here as the module below both.
-/
namespace BM

theorem stripPrefix?_eq : ∀ (p s rest : Bytes), stripPrefix? p s = some rest → s = p ++ rest
  | [], s, rest, h => by simp [stripPrefix?] at h; simp [h]
  | _ :: _, [], rest, h => by simp [stripPrefix?] at h
  | p :: ps, c :: cs, rest, h => by
    unfold stripPrefix? at h
    split at h
    · rename_i hpc
      have : p = c := by simpa using hpc
      subst this
      rw [stripPrefix?_eq ps cs rest h]; rfl
    · cases h

theorem decodeRune_ascii (b0 : UInt8) (rest : Bytes) (h : b0.toNat < 0x80) :
    decodeRune (b0 :: rest) = (b0.toNat, 1) := by
  simp [decodeRune, h]

/-- What one step consumes: at least one byte, no more than there are, and behind a non-ASCII lead byte only
    non-ASCII bytes.  Stated for a variable string so that the case analysis along `decodeRune` applies to it. -/
theorem decodeRune_width (s : Bytes) (hs : s ≠ []) :
    1 ≤ (decodeRune s).2 ∧ (decodeRune s).2 ≤ s.length ∧
      (¬ (s.headD 0).toNat < 0x80 → ∀ c ∈ s.take (decodeRune s).2, 0x80 ≤ c.toNat) := by
  fun_cases decodeRune s
  case case1 => exact absurd rfl hs
  -- two, three, four bytes: the continuation bytes passed a test `0x80 ≤ · ≤ 0xBF` or a narrower one
  case case4 | case7 | case10 =>
    rename_i hc
    refine ⟨Nat.succ_le_succ (Nat.zero_le _), by simp only [List.length_cons]; omega, fun h => ?_⟩
    simp +zetaDelta only [List.headD_cons, Bool.and_eq_true, decide_eq_true_eq] at h hc
    simp only [List.take_succ_cons, List.take_zero, List.mem_cons, List.not_mem_nil, or_false, forall_eq_or_imp,
      forall_eq]
    repeat' split at hc
    all_goals omega
  -- the lead byte alone
  all_goals
    refine ⟨Nat.le_refl 1, Nat.succ_le_succ (Nat.zero_le _), fun h c hc => ?_⟩
    rw [List.headD_cons] at h
    rw [List.take_succ_cons, List.take_zero, List.mem_singleton] at hc
    exact hc ▸ Nat.le_of_not_lt h

theorem decodeRune_width_pos (b0 : UInt8) (rest : Bytes) : 1 ≤ (decodeRune (b0 :: rest)).2 :=
  (decodeRune_width _ (List.cons_ne_nil _ _)).1

theorem decodeRune_width_le (b0 : UInt8) (rest : Bytes) : (decodeRune (b0 :: rest)).2 ≤ (b0 :: rest).length :=
  (decodeRune_width _ (List.cons_ne_nil _ _)).2.1

theorem decodeRune_nonascii (b0 : UInt8) (rest : Bytes) (h : ¬ b0.toNat < 0x80) :
    ∀ c ∈ (b0 :: rest).take (decodeRune (b0 :: rest)).2, 0x80 ≤ c.toNat :=
  (decodeRune_width _ (List.cons_ne_nil _ _)).2.2 h

theorem decodeRune_step_ascii {b0 c : UInt8} {rest : Bytes} (hc : c ∈ (b0 :: rest).take (decodeRune (b0 :: rest)).2)
    (h : c.toNat < 0x80) : c = b0 ∧ decodeRune (b0 :: rest) = (c.toNat, 1) := by
  by_cases h0 : b0.toNat < 0x80
  · rw [decodeRune_ascii b0 rest h0] at hc ⊢
    rw [List.take_succ_cons, List.take_zero, List.mem_singleton] at hc
    subst hc
    exact ⟨rfl, rfl⟩
  · have := decodeRune_nonascii b0 rest h0 c hc
    omega

theorem decodeRunesAux_succ_cons (n : Nat) (b0 : UInt8) (rest : Bytes) :
    decodeRunesAux (n + 1) (b0 :: rest) =
      (decodeRune (b0 :: rest)).1 :: decodeRunesAux n ((b0 :: rest).drop (decodeRune (b0 :: rest)).2) := rfl

theorem ascii_mem_decodeRunesAux : ∀ (n : Nat) (s : Bytes), s.length ≤ n → ∀ b ∈ s, b.toNat < 0x80 →
    b.toNat ∈ decodeRunesAux n s := by
  intro n
  induction n with
  | zero => intro s hs b hb; cases List.eq_nil_of_length_eq_zero (Nat.le_zero.mp hs); cases hb
  | succ n ih =>
    intro s hs b hb hasc
    cases s with
    | nil => cases hb
    | cons b0 rest =>
      rw [decodeRunesAux_succ_cons]
      rw [← List.take_append_drop (decodeRune (b0 :: rest)).2 (b0 :: rest), List.mem_append] at hb
      rcases hb with hb | hb
      · rw [(decodeRune_step_ascii hb hasc).2]
        exact List.mem_cons_self
      · have := decodeRune_width_pos b0 rest
        exact List.mem_cons_of_mem _ (ih _ (by simp only [List.length_drop, List.length_cons] at hs ⊢; omega) b hb hasc)

theorem ascii_mem_decodeRunes (s : Bytes) (b : UInt8) (hb : b ∈ s) (h : b.toNat < 0x80) : b.toNat ∈ decodeRunes s :=
  ascii_mem_decodeRunesAux s.length s (Nat.le_refl _) b hb h

theorem runesByteLen_succ_cons (n : Nat) (b0 : UInt8) (rest : Bytes) :
    Css.runesByteLen (n + 1) (b0 :: rest) =
      (decodeRune (b0 :: rest)).2 + Css.runesByteLen n ((b0 :: rest).drop (decodeRune (b0 :: rest)).2) := rfl

theorem runesByteLen_nil (n : Nat) : Css.runesByteLen n [] = 0 := by
  cases n <;> rfl

theorem decodeRunesAux_fuel : ∀ (n m : Nat) (s : Bytes), s.length ≤ n → s.length ≤ m →
    decodeRunesAux n s = decodeRunesAux m s := by
  intro n
  induction n with
  | zero =>
    intro m s hn _
    have : s = [] := List.eq_nil_of_length_eq_zero (by omega)
    subst this
    cases m <;> simp [decodeRunesAux]
  | succ n ih =>
    intro m s hn hm
    cases s with
    | nil => cases m <;> simp [decodeRunesAux]
    | cons b0 rest =>
      cases m with
      | zero => simp at hm
      | succ m =>
        rw [decodeRunesAux_succ_cons, decodeRunesAux_succ_cons]
        have hw := decodeRune_width_pos b0 rest
        have hlen : ((b0 :: rest).drop (decodeRune (b0 :: rest)).2).length ≤ rest.length := by
          simp only [List.length_drop, List.length_cons]; omega
        simp only [List.length_cons] at hn hm
        rw [ih m _ (by omega) (by omega)]

theorem decodeRunes_cons (b0 : UInt8) (rest : Bytes) :
    decodeRunes (b0 :: rest) =
      (decodeRune (b0 :: rest)).1 :: decodeRunes ((b0 :: rest).drop (decodeRune (b0 :: rest)).2) := by
  unfold decodeRunes
  have hw := decodeRune_width_pos b0 rest
  simp only [List.length_cons]
  rw [decodeRunesAux_succ_cons]
  congr 1
  apply decodeRunesAux_fuel
  · simp only [List.length_drop, List.length_cons]; omega
  · exact Nat.le_refl _

theorem decodeRunes_nil : decodeRunes [] = [] := by simp [decodeRunes, decodeRunesAux]

theorem runesByteLen_le : ∀ (n : Nat) (s : Bytes), Css.runesByteLen n s ≤ s.length := by
  intro n
  induction n with
  | zero => intro s; simp [Css.runesByteLen]
  | succ n ih =>
    intro s
    cases s with
    | nil => simp [runesByteLen_nil]
    | cons b0 rest =>
      rw [runesByteLen_succ_cons]
      have h1 := decodeRune_width_le b0 rest
      have h2 := ih ((b0 :: rest).drop (decodeRune (b0 :: rest)).2)
      simp only [List.length_drop] at h2
      omega

theorem runesByteLen_pos (n : Nat) (b0 : UInt8) (rest : Bytes) : 1 ≤ Css.runesByteLen (n + 1) (b0 :: rest) := by
  rw [runesByteLen_succ_cons]
  have := decodeRune_width_pos b0 rest
  omega

theorem decodeRunes_drop : ∀ (i : Nat) (s : Bytes),
    decodeRunes (s.drop (Css.runesByteLen i s)) = (decodeRunes s).drop i := by
  intro i
  induction i with
  | zero => intro s; simp [Css.runesByteLen]
  | succ i ih =>
    intro s
    cases s with
    | nil => simp [runesByteLen_nil, decodeRunes_nil]
    | cons b0 rest =>
      rw [decodeRunes_cons, runesByteLen_succ_cons, List.drop_succ_cons, ← ih, List.drop_drop]

theorem runesByteLen_add : ∀ (i n : Nat) (s : Bytes),
    Css.runesByteLen (i + n) s = Css.runesByteLen i s + Css.runesByteLen n (s.drop (Css.runesByteLen i s)) := by
  intro i
  induction i with
  | zero => intro n s; simp [Css.runesByteLen]
  | succ i ih =>
    intro n s
    cases s with
    | nil => simp [runesByteLen_nil]
    | cons b0 rest =>
      have : i + 1 + n = (i + n) + 1 := by omega
      rw [this, runesByteLen_succ_cons, runesByteLen_succ_cons, ih, ← List.drop_drop]
      omega

/-! ### appending ASCII

  Decoding is self-synchronising where it matters here: appending ASCII bytes to a byte string does not
  change how the string itself decodes — a sequence cut short at the end of the string is an error rune with or
  without the ASCII bytes after it, because an ASCII byte is not a continuation byte.
  Used for `rel` values: `v ++ " nofollow"` decodes to the runes of `v` followed by those of the suffix. -/

def AsciiBytes (w : Bytes) : Prop := ∀ c ∈ w, c.toNat < 0x80

theorem asciiBytes_tail {c : UInt8} {w : Bytes} (h : AsciiBytes (c :: w)) : AsciiBytes w :=
  fun x hx => h x (List.mem_cons_of_mem _ hx)

/-- One ASCII byte more: it matters only in the position just behind the end of `rest`, and there a byte
    below 0x80 fails the continuation test, which gives what a missing byte gives. -/
theorem decodeRune_snoc_ascii (b0 c : UInt8) (rest : Bytes) (hc : c.toNat < 0x80) :
    decodeRune (b0 :: (rest ++ [c])) = decodeRune (b0 :: rest) := by
  have hc' : decide (0x80 ≤ c.toNat) = false := decide_eq_false (Nat.not_le.mpr hc)
  rcases rest with _ | ⟨b1, _ | ⟨b2, _ | ⟨b3, r⟩⟩⟩
  · simp only [decodeRune, List.nil_append, hc', Bool.false_and, Bool.false_eq_true, ↓reduceIte]
  · simp only [decodeRune, List.cons_append, List.nil_append, hc', Bool.false_and, Bool.and_false,
      Bool.false_eq_true, ↓reduceIte]
  · simp only [decodeRune, List.cons_append, List.nil_append, hc', Bool.false_and, Bool.and_false,
      Bool.false_eq_true, ↓reduceIte]
  · rfl

theorem decodeRune_append_ascii (b0 : UInt8) (rest w : Bytes) (hw : AsciiBytes w) :
    decodeRune (b0 :: (rest ++ w)) = decodeRune (b0 :: rest) := by
  induction w generalizing rest with
  | nil => rw [List.append_nil]
  | cons c w ih =>
    rw [List.append_cons, ih _ (asciiBytes_tail hw), decodeRune_snoc_ascii b0 c rest (hw c List.mem_cons_self)]

theorem decodeRunes_append_ascii : ∀ (n : Nat) (s w : Bytes), s.length ≤ n → AsciiBytes w →
    decodeRunes (s ++ w) = decodeRunes s ++ decodeRunes w
  | 0, s, w, hn, _ => by
    have : s = [] := List.length_eq_zero_iff.mp (Nat.le_zero.mp hn)
    subst this
    simp [decodeRunes_nil]
  | n + 1, [], w, _, _ => by simp [decodeRunes_nil]
  | n + 1, b0 :: rest, w, hn, hw => by
    have hpos := decodeRune_width_pos b0 rest
    rw [List.cons_append, decodeRunes_cons, decodeRunes_cons, decodeRune_append_ascii b0 rest w hw,
      ← List.cons_append, List.drop_append_of_le_length (decodeRune_width_le b0 rest),
      decodeRunes_append_ascii n _ w (by simp only [List.length_drop, List.length_cons] at hn ⊢; omega) hw]
    rfl

theorem decodeRunes_ascii : ∀ (w : Bytes), AsciiBytes w → decodeRunes w = w.map (·.toNat)
  | [], _ => decodeRunes_nil
  | c :: w, h => by
    rw [decodeRunes_cons, decodeRune_ascii c w (h c List.mem_cons_self)]
    simp only [List.drop_succ_cons, List.drop_zero, List.map_cons]
    rw [decodeRunes_ascii w (asciiBytes_tail h)]

end BM
