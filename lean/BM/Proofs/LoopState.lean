import BM.Sanitize
import BM.Spec.Oracles
/-
  One iteration of the token loop.  `Policy.step` by token type; the two tests every tag goes through
  (`hiddenEl`: script/style without AllowUnsafe, `allowedEl`: on the allowlist by name or by pattern);
  what the state transformers leave alone; then the equations of `stepStart`, `stepSelfClosing` and
  `stepEnd`, one per outcome, and `step_tag`, which reads them backwards: the states a tag can lead to
  and what it can have written.
-/
namespace BM
open Html Spec

theorem step_of_start {t : Token} (h : t.tt = .start) (p : Policy) (st : LoopState) :
    p.step st t = p.stepStart st t := by simp [Policy.step, h]

theorem step_of_end {t : Token} (h : t.tt = .end_) (p : Policy) (st : LoopState) :
    p.step st t = p.stepEnd st t := by simp [Policy.step, h]

theorem step_of_selfClosing {t : Token} (h : t.tt = .selfClosing) (p : Policy) (st : LoopState) :
    p.step st t = p.stepSelfClosing st t := by simp [Policy.step, h]

theorem step_of_text {t : Token} (h : t.tt = .text) (p : Policy) (st : LoopState) :
    p.step st t = some (st, p.stepText st t) := by simp [Policy.step, h]

theorem step_of_comment {t : Token} (h : t.tt = .comment) (p : Policy) (st : LoopState) :
    p.step st t = some (st, if p.allowComments then [⟨t.render⟩] else []) := by simp [Policy.step, h]

theorem step_of_doctype {t : Token} (h : t.tt = .doctype) (p : Policy) (st : LoopState) :
    p.step st t = some (st, []) := by simp [Policy.step, h]

theorem isTag_iff (t : Token) : isTag t = true ↔ t.tt = .start ∨ t.tt = .end_ ∨ t.tt = .selfClosing := by
  unfold isTag; cases t.tt <;> decide

/-! ### the two tests every tag goes through -/

def hiddenEl (p : Policy) (n : Bytes) : Bool := isScriptOrStyle n && !p.allowUnsafe

theorem hiddenEl_eq (p : Policy) (n : Bytes) : (isScriptOrStyle n && !p.allowUnsafe) = hiddenEl p n := rfl

def Policy.allowedEl (p : Policy) (n : Bytes) : Bool := p.explicitEl n || p.patternEl n

theorem allowsElement_eq (p : Policy) (n : Bytes) : allowsElement p n = p.allowedEl n := by
  unfold allowsElement Policy.allowedEl Policy.patternEl Policy.explicitEl
  cases p.elsAndAttrs.contains n <;> simp

theorem not_allowedEl_eq (p : Policy) (n : Bytes) : (!p.explicitEl n && !p.patternEl n) = !p.allowedEl n := by
  simp [Policy.allowedEl]

theorem isEmpty_filter {α : Type} (f : α → Bool) (l : List α) : (l.filter f).isEmpty = !l.any f := by
  induction l with
  | nil => rfl
  | cons x xs ih =>
    rw [List.filter_cons, List.any_cons]
    cases f x
    · exact ih
    · rfl

theorem attrRulesFor_isSome (p : Policy) (n : Bytes) : (p.attrRulesFor n).isSome = allowsElement p n := by
  unfold Policy.attrRulesFor allowsElement Map.contains Policy.matchRegex
  cases Map.get? p.elsAndAttrs n with
  | some a => rfl
  | none =>
    simp only [isEmpty_filter]
    cases p.elsMatchingAndAttrs.any fun (r, _) => r.test n <;> rfl

theorem attrRulesFor_allows' {p : Policy} {el : Bytes} {aps : AttrRules}
    (h : p.attrRulesFor el = some aps) : allowsElement p el = true := by
  rw [← attrRulesFor_isSome, h]; rfl

/-! ### `sanitizeAttrs` always returns, so the only way an iteration can fail is the stack access of `stepEnd` -/

namespace Props

theorem mapMOpt_isSome {α β} (f : α → Option (Option β)) (l : List α) (hf : ∀ a, (f a).isSome = true) :
    (mapMOpt f l).isSome = true := by
  induction l with
  | nil => simp [mapMOpt]
  | cons x xs ih =>
    unfold mapMOpt
    have hx := hf x
    cases hfx : f x with
    | none => simp [hfx] at hx
    | some o =>
      cases hm : mapMOpt f xs with
      | none => simp [hm] at ih
      | some ys => cases o <;> simp

theorem urlPassAttr_isSome (p : Policy) (el : Bytes) (a : Attr) : (p.urlPassAttr el a).isSome = true := by
  unfold Policy.urlPassAttr
  repeat' split
  all_goals rfl

theorem linkPasses_isSome (p : Policy) (el : Bytes) (clean : List Attr) :
    (p.linkPasses el clean).isSome = true := by
  unfold Policy.linkPasses
  split
  · simp only [Option.isSome_map]
    split
    · exact mapMOpt_isSome _ _ (urlPassAttr_isSome p el)
    · simp
  · simp

/-- `sanitizeAttrs` always returns (no nil dereference in the rewriter branch) -/
theorem sanitizeAttrs_isSome (p : Policy) (el : Bytes) (attrs : List Attr) (aps : AttrRules) :
    (p.sanitizeAttrs el attrs aps).isSome = true := by
  unfold Policy.sanitizeAttrs
  split
  · simp
  · simp only
    split
    · simp
    · simp only [Option.isSome_map]; exact linkPasses_isSome p el _

/-- the name of a start tag does not begin with `/` (true of tokenizer output: `nameOK_of_tokWF`, Props/C14) -/
def NameOK (t : Token) : Prop := t.tt = .start → t.data.head? ≠ some 47

theorem cleanAttrs_isSome (p : Policy) (t : Token) (aps : AttrRules) : (p.cleanAttrs t aps).isSome = true := by
  unfold Policy.cleanAttrs
  split
  · simp
  · exact sanitizeAttrs_isSome p t.data t.attrs aps

end Props

/-! ### what the state transformers leave alone -/

theorem stepStart_void (p : Policy) (st : LoopState) {t : Token} (hv : isVoidElement t.data = true) :
    p.stepStart st t = p.stepSelfClosing st t := by
  simp only [Policy.stepStart, Policy.stepSelfClosing, Policy.enterSkip, pushDropped, markKept, hv, Bool.not_true,
    Bool.and_false, Bool.false_and, Bool.false_eq_true, ↓reduceIte]

theorem pushDropped_skip (st : LoopState) (el : Bytes) :
    (pushDropped st el).skipElementContent = st.skipElementContent := by
  unfold pushDropped; split <;> rfl

theorem markKept_skip (st : LoopState) (el : Bytes) :
    (markKept st el).skipElementContent = st.skipElementContent := by
  unfold markKept; split <;> rfl

theorem clearRecent_skip (st : LoopState) (el : Bytes) :
    (clearRecent st el).skipElementContent = st.skipElementContent := by
  unfold clearRecent; split <;> rfl

theorem popMarker_skip (st : LoopState) (el : Bytes) :
    (popMarker st el).skipElementContent = st.skipElementContent := by
  unfold popMarker; split <;> rfl

theorem leaveSkip_skip_of_not_skipping (p : Policy) {st : LoopState} (h : st.skipElementContent = false) (el : Bytes) :
    (p.leaveSkip st el).skipElementContent = false := by
  unfold Policy.leaveSkip
  split
  · simp only; split
    · rfl
    · exact h
  · exact h

theorem popMarker_of_head_ne {st : LoopState} {el : Bytes} (h : st.closingTagToSkipStack.head? ≠ some (47 :: el)) :
    popMarker st el = st := by simp [popMarker, h]

theorem leaveSkip_of_allowed (p : Policy) (st : LoopState) (el : Bytes) (h : p.allowedEl el = true) :
    p.leaveSkip st el = st := by
  unfold Policy.leaveSkip
  rcases Bool.or_eq_true_iff.mp h with h | h <;> simp [h]

/-! ### the equations of an iteration on a tag, one per outcome -/

/-- what the loop decides at an open tag, before it touches the state -/
theorem open_cases (p : Policy) (t : Token) :
    hiddenEl p t.data = true ∨ (hiddenEl p t.data = false ∧ p.attrRulesFor t.data = none) ∨
    ∃ aps attrs, hiddenEl p t.data = false ∧ p.attrRulesFor t.data = some aps ∧ p.cleanAttrs t aps = some attrs := by
  cases hh : hiddenEl p t.data with
  | true => exact .inl rfl
  | false =>
    cases hr : p.attrRulesFor t.data with
    | none => exact .inr (.inl ⟨rfl, rfl⟩)
    | some aps =>
      obtain ⟨attrs, hc⟩ := Option.isSome_iff_exists.mp (Props.cleanAttrs_isSome p t aps)
      exact .inr (.inr ⟨aps, attrs, rfl, rfl, hc⟩)

theorem stepStart_hidden {p : Policy} {st : LoopState} {t : Token} (hh : hiddenEl p t.data = true) :
    p.stepStart st t = some ({ st with mostRecentlyStartedToken := t.data }, []) := by
  simp only [Policy.stepStart, hiddenEl_eq, hh, ↓reduceIte]

theorem stepStart_dis {p : Policy} {st : LoopState} {t : Token} (hh : hiddenEl p t.data = false)
    (hr : p.attrRulesFor t.data = none) :
    p.stepStart st t = some (p.enterSkip { st with mostRecentlyStartedToken := t.data } t.data, p.space) := by
  simp only [Policy.stepStart, hiddenEl_eq, hh, hr, Bool.false_eq_true, ↓reduceIte]

theorem stepStart_bare {p : Policy} {st : LoopState} {t : Token} (hh : hiddenEl p t.data = false)
    {aps : AttrRules} (hr : p.attrRulesFor t.data = some aps) {attrs : List Attr} (hc : p.cleanAttrs t aps = some attrs)
    (hb : (attrs.isEmpty && !p.allowNoAttrs t.data) = true) :
    p.stepStart st t = some (pushDropped { st with mostRecentlyStartedToken := t.data } t.data, p.space) := by
  simp only [Policy.stepStart, hiddenEl_eq, hh, hr, hc, hb, Bool.false_eq_true, ↓reduceIte]

theorem stepStart_kept {p : Policy} {st : LoopState} {t : Token} (hh : hiddenEl p t.data = false)
    {aps : AttrRules} (hr : p.attrRulesFor t.data = some aps) {attrs : List Attr} (hc : p.cleanAttrs t aps = some attrs)
    (hb : (attrs.isEmpty && !p.allowNoAttrs t.data) = false) :
    p.stepStart st t =
      let st2 := markKept { st with mostRecentlyStartedToken := t.data } t.data
      some (st2, emitUnlessSkipping st2 { t with attrs := attrs }) := by
  simp only [Policy.stepStart, hiddenEl_eq, hh, hr, hc, hb, Bool.false_eq_true, ↓reduceIte]

theorem stepSelfClosing_hidden {p : Policy} {st : LoopState} {t : Token} (hh : hiddenEl p t.data = true) :
    p.stepSelfClosing st t = some ({ st with mostRecentlyStartedToken := t.data }, []) := by
  simp only [Policy.stepSelfClosing, hiddenEl_eq, hh, ↓reduceIte]

theorem stepSelfClosing_dis {p : Policy} {st : LoopState} {t : Token} (hh : hiddenEl p t.data = false)
    (hr : p.attrRulesFor t.data = none) :
    p.stepSelfClosing st t = some ({ st with mostRecentlyStartedToken := t.data }, p.space) := by
  simp only [Policy.stepSelfClosing, hiddenEl_eq, hh, hr, Bool.false_eq_true, ↓reduceIte]

theorem stepSelfClosing_some {p : Policy} {st : LoopState} {t : Token} (hh : hiddenEl p t.data = false)
    {aps : AttrRules} (hr : p.attrRulesFor t.data = some aps) {attrs : List Attr} (hc : p.cleanAttrs t aps = some attrs) :
    p.stepSelfClosing st t =
      let r : LoopState := { st with mostRecentlyStartedToken := t.data }
      some (r, if attrs.isEmpty && !p.allowNoAttrs t.data then p.space else emitUnlessSkipping r { t with attrs := attrs }) := by
  simp only [Policy.stepSelfClosing, hiddenEl_eq, hh, hr, hc, Bool.false_eq_true, ↓reduceIte]
  split <;> rfl

/-- a self-closing tag records its name and changes nothing else -/
theorem stepSelfClosing_state (p : Policy) (st : LoopState) (t : Token) :
    ∃ ws, p.stepSelfClosing st t = some ({ st with mostRecentlyStartedToken := t.data }, ws) := by
  rcases open_cases p t with hh | ⟨hh, hr⟩ | ⟨aps, attrs, hh, hr, hc⟩
  · exact ⟨_, stepSelfClosing_hidden hh⟩
  · exact ⟨_, stepSelfClosing_dis hh hr⟩
  · exact ⟨_, stepSelfClosing_some hh hr hc⟩

/-- the end-tag step, spelled out on the fields it reads -/
theorem stepEnd_eq (p : Policy) (st : LoopState) (t : Token) :
    p.stepEnd st t =
      (let st1 := clearRecent st t.data
       if isScriptOrStyle t.data && !p.allowUnsafe then some (st1, [])
       else if st1.skipClosingTag && st1.closingTagToSkipStack.isEmpty then none
       else if st1.skipClosingTag && st1.closingTagToSkipStack.head? == some t.data then
         some (popDropped st1, p.space)
       else
         let st2 := p.leaveSkip (popMarker st1 t.data) t.data
         if !p.explicitEl t.data && !p.patternEl t.data then some (st2, p.space)
         else some (st2, emitUnlessSkipping st2 t)) := rfl

theorem stepEnd_hidden {p : Policy} {st c : LoopState} {t : Token} (hc : clearRecent st t.data = c)
    (hh : hiddenEl p t.data = true) : p.stepEnd st t = some (c, []) := by
  rw [stepEnd_eq, hc]
  simp only [hiddenEl_eq, hh, ↓reduceIte]

/-- the end tag of an element dropped for lack of attributes: its name is on top of the stack -/
theorem stepEnd_dropped {p : Policy} {st c : LoopState} {t : Token} (hc : clearRecent st t.data = c)
    (hh : hiddenEl p t.data = false) {rest : List Bytes} (hflag : c.skipClosingTag = true)
    (hstack : c.closingTagToSkipStack = t.data :: rest) : p.stepEnd st t = some (popDropped c, p.space) := by
  rw [stepEnd_eq, hc]
  simp [hiddenEl_eq, hh, hflag, hstack]

theorem stepEnd_other {p : Policy} {st c : LoopState} {t : Token} (hc : clearRecent st t.data = c)
    (hh : hiddenEl p t.data = false) (hflag : c.skipClosingTag = !c.closingTagToSkipStack.isEmpty)
    (hne : c.closingTagToSkipStack.head? ≠ some t.data) :
    p.stepEnd st t =
      let st2 := p.leaveSkip (popMarker c t.data) t.data
      some (st2, if p.allowedEl t.data then emitUnlessSkipping st2 t else p.space) := by
  have c3 : (c.closingTagToSkipStack.head? == some t.data) = false := by simpa using hne
  rw [stepEnd_eq, hc]
  simp only [hiddenEl_eq, hh, hflag, not_allowedEl_eq, Bool.not_and_self, c3, Bool.and_false, Bool.false_eq_true,
    ↓reduceIte]
  cases p.allowedEl t.data <;> rfl

theorem step_nontag {p : Policy} {st st' : LoopState} {t : Token} {ws : List Write}
    (h : p.step st t = some (st', ws)) (htag : isTag t = false) : st' = st := by
  have hne := mt (isTag_iff t).mpr (by rw [htag]; decide)
  cases htt : t.tt with
  | start => exact absurd (.inl htt) hne
  | end_ => exact absurd (.inr (.inl htt)) hne
  | selfClosing => exact absurd (.inr (.inr htt)) hne
  | text => rw [step_of_text htt] at h; cases h; rfl
  | comment => rw [step_of_comment htt] at h; cases h; rfl
  | doctype => rw [step_of_doctype htt] at h; cases h; rfl

/-- the equations read backwards: the states a tag can lead to (`r`: its name recorded, `c`: after
    `clearRecent`), and what it has written — nothing if it is a hidden script/style tag; otherwise the
    space, or, unless the new state skips, the open tag with its cleaned attributes or the end tag of an
    allowed element -/
theorem step_tag {p : Policy} {st st' : LoopState} {t : Token} {ws : List Write}
    (h : p.step st t = some (st', ws)) (htag : isTag t = true) :
    let r : LoopState := { st with mostRecentlyStartedToken := t.data }
    let c := clearRecent st t.data
    (st' = r ∨ st' = p.enterSkip r t.data ∨ (st' = pushDropped r t.data ∧ t.tt = .start) ∨
      st' = markKept r t.data ∨ st' = c ∨ st' = popDropped c ∨ st' = p.leaveSkip (popMarker c t.data) t.data) ∧
    ((hiddenEl p t.data = true ∧ ws = []) ∨
     (hiddenEl p t.data = false ∧ (ws = p.space ∨
      (∃ aps attrs, (t.tt = .start ∨ t.tt = .selfClosing) ∧ p.attrRulesFor t.data = some aps ∧
        p.cleanAttrs t aps = some attrs ∧ (attrs.isEmpty && !p.allowNoAttrs t.data) = false ∧
        st'.skipElementContent = st.skipElementContent ∧ ws = emitUnlessSkipping st' { t with attrs := attrs }) ∨
      (t.tt = .end_ ∧ p.allowedEl t.data = true ∧ ws = emitUnlessSkipping st' t)))) := by
  simp only
  rcases (isTag_iff t).mp htag with htt | htt | htt
  · rw [step_of_start htt] at h
    rcases open_cases p t with hh | ⟨hh, hr⟩ | ⟨aps, attrs, hh, hr, hc⟩
    · rw [stepStart_hidden hh] at h; cases h; exact ⟨.inl rfl, .inl ⟨hh, rfl⟩⟩
    · rw [stepStart_dis hh hr] at h; cases h; exact ⟨.inr (.inl rfl), .inr ⟨hh, .inl rfl⟩⟩
    · cases hb : attrs.isEmpty && !p.allowNoAttrs t.data with
      | true =>
        rw [stepStart_bare hh hr hc hb] at h; cases h
        exact ⟨.inr (.inr (.inl ⟨rfl, htt⟩)), .inr ⟨hh, .inl rfl⟩⟩
      | false =>
        rw [stepStart_kept hh hr hc hb] at h; cases h
        exact ⟨.inr (.inr (.inr (.inl rfl))),
          .inr ⟨hh, .inr (.inl ⟨aps, attrs, .inl htt, hr, hc, hb, markKept_skip _ _, rfl⟩)⟩⟩
  · rw [step_of_end htt, stepEnd_eq, hiddenEl_eq, not_allowedEl_eq] at h
    generalize clearRecent st t.data = c at h ⊢
    cases hh : hiddenEl p t.data with
    | true => simp only [hh, ↓reduceIte] at h; cases h; exact ⟨.inr (.inr (.inr (.inr (.inl rfl)))), .inl ⟨rfl, rfl⟩⟩
    | false =>
      simp only [hh, Bool.false_eq_true, ↓reduceIte] at h
      by_cases h2 : (c.skipClosingTag && c.closingTagToSkipStack.isEmpty) = true
      · rw [if_pos h2] at h; cases h
      rw [if_neg h2] at h
      by_cases h3 : (c.skipClosingTag && c.closingTagToSkipStack.head? == some t.data) = true
      · rw [if_pos h3] at h
        cases h; exact ⟨.inr (.inr (.inr (.inr (.inr (.inl rfl))))), .inr ⟨rfl, .inl rfl⟩⟩
      rw [if_neg h3] at h
      cases ha : p.allowedEl t.data with
      | false =>
        simp only [ha, Bool.not_false, ↓reduceIte] at h
        cases h; exact ⟨.inr (.inr (.inr (.inr (.inr (.inr rfl))))), .inr ⟨rfl, .inl rfl⟩⟩
      | true =>
        simp only [ha, Bool.not_true, Bool.false_eq_true, ↓reduceIte] at h
        cases h; exact ⟨.inr (.inr (.inr (.inr (.inr (.inr rfl))))), .inr ⟨rfl, .inr (.inr ⟨htt, rfl, rfl⟩)⟩⟩
  · rw [step_of_selfClosing htt] at h
    rcases open_cases p t with hh | ⟨hh, hr⟩ | ⟨aps, attrs, hh, hr, hc⟩
    · rw [stepSelfClosing_hidden hh] at h; cases h; exact ⟨.inl rfl, .inl ⟨hh, rfl⟩⟩
    · rw [stepSelfClosing_dis hh hr] at h; cases h; exact ⟨.inl rfl, .inr ⟨hh, .inl rfl⟩⟩
    · rw [stepSelfClosing_some hh hr hc] at h; cases h
      cases hb : attrs.isEmpty && !p.allowNoAttrs t.data with
      | true => exact ⟨.inl rfl, .inr ⟨hh, .inl (by simp)⟩⟩
      | false => exact ⟨.inl rfl, .inr ⟨hh, .inr (.inl ⟨aps, attrs, .inr htt, hr, hc, hb, rfl, by simp⟩)⟩⟩

theorem emitUnlessSkipping_of_not_skipping {st : LoopState} (h : st.skipElementContent = false) (t : Token) :
    emitUnlessSkipping st t = [⟨t.render⟩] := by
  simp [emitUnlessSkipping, h]

end BM
