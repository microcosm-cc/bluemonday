import BM.Proofs.AttrPass
/-
  `sanitizeAttrs` on an element without style rules, on top of the stage equations of `Proofs/AttrPass`: the first
  pass is a filter (`sanitizeAttrs_nf`, `sanitizeAttrs_nf_link` with the forced attributes off), what
  the first application returns (`sanitizeAttrs_first`) and when a list is returned unchanged
  (`sanitizeAttrs_fixed_of`).
-/
namespace BM.Props
open BM BM.Html BM.Spec

theorem acc_congr_key {acc : Attr → Bool} {a b : Attr} (h : ∀ v v', acc ⟨a.key, v⟩ = acc ⟨a.key, v'⟩)
    (hk : b.key = a.key) : acc b = acc a := by
  show acc ⟨b.key, b.val⟩ = acc ⟨a.key, a.val⟩
  rw [hk]
  exact h _ _

theorem eq_some_getD {α} {o : Option α} (d : α) (h : o.isSome = true) : o = some (o.getD d) := by
  cases o with
  | some a => rfl
  | none => cases h

theorem attrRulesFor_of_get? {p : Policy} {el : Bytes} {aps : AttrRules} (h : p.elsAndAttrs.get? el = some aps) :
    p.attrRulesFor el = some aps := by
  unfold Policy.attrRulesFor
  rw [h]

/-- the rules of a policy with one named element and no element patterns -/
theorem attrRulesFor_single {p : Policy} {n : Bytes} {r : AttrRules} (h1 : p.elsAndAttrs = [(n, r)])
    (h2 : p.elsMatchingAndAttrs = []) {el : Bytes} {aps : AttrRules} (h : p.attrRulesFor el = some aps) :
    el = n ∧ aps = r := by
  simp only [Policy.attrRulesFor, h1, h2, Map.get?, Policy.matchRegex] at h
  by_cases hn : (n == el) = true
  · simp only [hn, ↓reduceIte, Option.some.injEq] at h
    exact ⟨(by simpa using hn : n = el).symm, h.symm⟩
  · simp [hn] at h

theorem filterAttr_nostyle (p : Policy) (el : Bytes) (aps : AttrRules) (a b : Attr)
    (h : p.filterAttr el aps false a = some b) : b = a := by
  rcases filterAttr_some h with ⟨_, rfl⟩ | ⟨_, ⟨hs, _⟩ | ⟨_, rfl, _⟩⟩
  · rfl
  · rw [Bool.and_false] at hs; cases hs
  · rfl

theorem filterMap_eq_filter (p : Policy) (el : Bytes) (aps : AttrRules) (l : List Attr) :
    l.filterMap (p.filterAttr el aps false) = l.filter fun a => (p.filterAttr el aps false a).isSome := by
  induction l with
  | nil => rfl
  | cons a as ih =>
    cases h : p.filterAttr el aps false a with
    | none => simp [h, ih]
    | some b =>
      have := filterAttr_nostyle p el aps a b h
      subst this
      simp [h, ih]

theorem filterAttr_isSome (p : Policy) (el : Bytes) (aps : AttrRules) (a : Attr) :
    (p.filterAttr el aps false a).isSome =
      ((p.allowDataAttributes && isDataAttribute a.key) ||
       (match aps.get? a.key with | some apl => attrPoliciesAccept apl a.val | none => false) ||
       (match p.globalAttrs.get? a.key with | some apl => attrPoliciesAccept apl a.val | none => false)) := by
  unfold Policy.filterAttr
  simp only [Bool.and_false, Bool.false_eq_true, ↓reduceIte]
  cases (p.allowDataAttributes && isDataAttribute a.key) <;> cases aps.get? a.key <;> cases p.globalAttrs.get? a.key <;>
    simp only [Bool.false_eq_true, ↓reduceIte, Bool.false_or, Bool.true_or, Bool.or_false, Option.isSome_some,
      Option.isSome_none]
  all_goals (repeat' split) <;> simp only [Option.isSome_some, Option.isSome_none, Bool.or_true, Bool.or_false, Bool.true_or, *]

/-- the rules for attribute `k` in a table carry no value pattern -/
def patFree (rules : AttrRules) (k : Bytes) : Bool :=
  match rules.get? k with
  | some apl => apl.all Option.isNone
  | none => true

def noRule (rules : AttrRules) (k : Bytes) : Bool := (rules.get? k).isNone

theorem patFree_of_noRule (rules : AttrRules) (k : Bytes) (h : noRule rules k = true) : patFree rules k = true := by
  unfold noRule at h
  have : rules.get? k = none := by simpa using h
  simp [patFree, this]

theorem accept_patFree (apl : List AttrPolicy) (h : apl.all Option.isNone = true) (v v' : Bytes) :
    attrPoliciesAccept apl v = attrPoliciesAccept apl v' := by
  unfold attrPoliciesAccept
  induction apl with
  | nil => rfl
  | cons ap rest ih =>
    simp only [List.all_cons, Bool.and_eq_true] at h
    cases ap with
    | none => simp
    | some r => simp at h

theorem filterAttr_blind (p : Policy) (el : Bytes) (aps : AttrRules) (k : Bytes)
    (h1 : patFree aps k = true) (h2 : patFree p.globalAttrs k = true) (v v' : Bytes) :
    (p.filterAttr el aps false ⟨k, v⟩).isSome = (p.filterAttr el aps false ⟨k, v'⟩).isSome := by
  have hm : ∀ rules : AttrRules, patFree rules k = true →
      (match rules.get? k with | some apl => attrPoliciesAccept apl v | none => false) =
      (match rules.get? k with | some apl => attrPoliciesAccept apl v' | none => false) := by
    intro rules h
    unfold patFree at h
    cases hg : rules.get? k with
    | none => rfl
    | some apl => rw [hg] at h; exact accept_patFree apl h v v'
  rw [filterAttr_isSome, filterAttr_isSome]
  simp only [hm aps h1, hm p.globalAttrs h2]

theorem filterAttr_noRule (p : Policy) (el : Bytes) (aps : AttrRules) (k : Bytes)
    (hd : (p.allowDataAttributes && isDataAttribute k) = false)
    (h1 : noRule aps k = true) (h2 : noRule p.globalAttrs k = true) (v : Bytes) :
    (p.filterAttr el aps false ⟨k, v⟩).isSome = false := by
  unfold noRule at h1 h2
  have g1 : aps.get? k = none := by simpa using h1
  have g2 : p.globalAttrs.get? k = none := by simpa using h2
  rw [filterAttr_isSome]
  simp only [hd, g1, g2, Bool.or_self]

/-- `sanitizeAttrs_eq` on an element without style rules: the first pass is a filter -/
theorem sanitizeAttrs_nf (p : Policy) (el : Bytes) (hst : p.hasStylePolicies el = false) (attrs : List Attr)
    (aps : AttrRules) :
    p.sanitizeAttrs el attrs aps =
      if (attrs.filter fun a => (p.filterAttr el aps false a).isSome).isEmpty then some []
      else (p.urlStage el (attrs.filter fun a => (p.filterAttr el aps false a).isSome)).map (p.later el) := by
  rw [sanitizeAttrs_eq, hst, filterMap_eq_filter]

theorem sanitizeAttrs_nf_link (p : Policy) (el : Bytes) (h1 : p.hasStylePolicies el = false)
    (h2 : p.requireCrossOriginAnonymous = false) (h3 : p.requireSandboxOnIFrame = none)
    (attrs : List Attr) (aps : AttrRules) :
    p.sanitizeAttrs el attrs aps =
      if (attrs.filter fun a => (p.filterAttr el aps false a).isSome).isEmpty then some []
      else (p.urlStage el (attrs.filter fun a => (p.filterAttr el aps false a).isSome)).map (p.hardenStage el) := by
  rw [sanitizeAttrs_nf p el h1, funext (later_off p h2 h3 el)]

def urlKeyFor (el : Bytes) : Option Bytes :=
  if isHrefElement el then some b!"href" else if isCiteElement el then some b!"cite"
  else if isSrcElement el then some b!"src" else none

theorem urlKeyFor_mem (el k : Bytes) (h : urlKeyFor el = some k) : k = b!"href" ∨ k = b!"cite" ∨ k = b!"src" := by
  unfold urlKeyFor at h
  repeat' split at h
  all_goals (simp only [Option.some.injEq, reduceCtorEq] at h)
  · exact .inl h.symm
  · exact .inr (.inl h.symm)
  · exact .inr (.inr h.symm)

/-- the element's URL key is the specification's URL position -/
theorem urlKeyFor_iff (el k : Bytes) : urlKeyFor el = some k ↔ isUrlPosition el k = true := by
  obtain ⟨hc, hs⟩ := urlClasses_disjoint el
  rw [isUrlPosition_eq]
  unfold urlKeyFor
  cases h1 : isHrefElement el <;> cases h2 : isCiteElement el <;> cases h3 : isSrcElement el <;>
    simp [h1, h2, h3] at hc hs ⊢ <;> exact eq_comm

/-- at a URL position, with no rewriter in play for this attribute (one matters at `src` only), the new value is what
    `validURL` returned -/
theorem urlAt_valid {p : Policy} {el : Bytes} {a b : Attr} (hr : a.key = b!"src" → p.srcRewriter = none)
    (hpos : isUrlPosition el a.key = true) (h : p.urlAt a = some (some b)) :
    b.key = a.key ∧ urlKeyFor el = some a.key ∧ p.validURL a.val = some b.val := by
  rw [urlAt_plain hr] at h
  obtain ⟨u, hu, rfl⟩ := Option.map_eq_some_iff.mp (Option.some.inj h)
  exact ⟨rfl, (urlKeyFor_iff el a.key).mpr hpos, hu⟩

theorem urlPassAttr_valid {p : Policy} {el : Bytes} {a b : Attr} (hr : a.key = b!"src" → p.srcRewriter = none)
    (h : p.urlPassAttr el a = some (some b)) :
    b.key = a.key ∧ (b = a ∨ (urlKeyFor el = some a.key ∧ p.validURL a.val = some b.val)) := by
  rcases urlPassAttr_origin h with rfl | ⟨hpos, h⟩
  · exact ⟨rfl, .inl rfl⟩
  · exact ⟨(urlAt_valid hr hpos h).1, .inr (urlAt_valid hr hpos h).2⟩

/-- the URL pass leaves an attribute alone if its URL value is stable (or it is not at the element's URL key) -/
theorem urlPass_fixed_src (p : Policy) (el : Bytes) (b : Attr) (hr : b.key = b!"src" → p.srcRewriter = none)
    (h : urlKeyFor el = some b.key → p.validURL b.val = some b.val) :
    p.urlPassAttr el b = some (some b) := by
  cases hpos : isUrlPosition el b.key
  · exact urlPassAttr_off hpos
  · rw [urlPass_checked p el b hpos hr, h ((urlKeyFor_iff el b.key).mpr hpos)]
    rfl

theorem urlPass_fixed (p : Policy) (hr : p.srcRewriter = none) (el : Bytes) (b : Attr)
    (h : urlKeyFor el = some b.key → p.validURL b.val = some b.val) :
    p.urlPassAttr el b = some (some b) :=
  urlPass_fixed_src p el b (fun _ => hr) h

/-- the URL pass leaves what it produced as it is, when `validURL` returns unchanged what it returned for this value -/
theorem urlPassAttr_fix_of (p : Policy) (hr : p.srcRewriter = none) (el : Bytes) (a b : Attr)
    (hst : ∀ v', p.validURL a.val = some v' → p.validURL v' = some v')
    (h : p.urlPassAttr el a = some (some b)) : p.urlPassAttr el b = some (some b) := by
  obtain ⟨_, rfl | ⟨_, hv⟩⟩ := urlPassAttr_valid (fun _ => hr) h
  · exact h
  · exact urlPass_fixed p hr el b fun _ => hst _ hv

theorem urlStage_valid {p : Policy} (hr : p.srcRewriter = none) {el : Bytes} {c u : List Attr}
    (h : p.urlStage el c = some u) :
    ∀ b ∈ u, ∃ a ∈ c, b.key = a.key ∧ (b = a ∨ (urlKeyFor el = some a.key ∧ p.validURL a.val = some b.val)) := by
  intro b hb
  obtain ⟨a, ha, rfl | ⟨hpos, hat⟩⟩ := urlStage_origin h hb
  · exact ⟨b, ha, rfl, .inl rfl⟩
  · exact ⟨a, ha, (urlAt_valid (fun _ => hr) hpos hat).1, .inr (urlAt_valid (fun _ => hr) hpos hat).2⟩

theorem sanitizeAttrs_first {p : Policy} {el : Bytes} (h1 : p.hasStylePolicies el = false)
    (h2 : p.requireCrossOriginAnonymous = false) (h3 : p.requireSandboxOnIFrame = none) (hr : p.srcRewriter = none)
    {attrs out : List Attr} {aps : AttrRules} (h : p.sanitizeAttrs el attrs aps = some out) :
    ∃ u, out = p.hardenStage el u ∧ ∀ b ∈ u, ∃ a ∈ attrs, (p.filterAttr el aps false a).isSome = true ∧
      b.key = a.key ∧ (b = a ∨ (urlKeyFor el = some a.key ∧ p.validURL a.val = some b.val)) := by
  rw [sanitizeAttrs_nf_link p el h1 h2 h3] at h
  have hsub : ∀ {u : List Attr}, (∀ b ∈ u, ∃ a ∈ attrs.filter (fun a => (p.filterAttr el aps false a).isSome),
      b.key = a.key ∧ (b = a ∨ (urlKeyFor el = some a.key ∧ p.validURL a.val = some b.val))) →
      ∀ b ∈ u, ∃ a ∈ attrs, (p.filterAttr el aps false a).isSome = true ∧
        b.key = a.key ∧ (b = a ∨ (urlKeyFor el = some a.key ∧ p.validURL a.val = some b.val)) := by
    intro u hu b hb
    obtain ⟨a, ha, hab⟩ := hu b hb
    exact ⟨a, (List.mem_filter.mp ha).1, (List.mem_filter.mp ha).2, hab⟩
  split at h
  · rename_i he
    cases h
    exact ⟨[], (hardenStage_nil p el).symm, by simp⟩
  · obtain ⟨u, hu, rfl⟩ := Option.map_eq_some_iff.mp h
    exact ⟨u, rfl, hsub (urlStage_valid hr hu)⟩

theorem sanitizeAttrs_fixed_of (p : Policy) (el : Bytes) (h1 : p.hasStylePolicies el = false)
    (h2 : p.requireCrossOriginAnonymous = false) (h3 : p.requireSandboxOnIFrame = none)
    (out : List Attr) (aps : AttrRules)
    (hurl : p.requireParseableURLs = true →
      ∀ a ∈ out.filter (fun a => (p.filterAttr el aps false a).isSome), p.urlPassAttr el a = some (some a))
    (hh : p.hardenStage el (out.filter fun a => (p.filterAttr el aps false a).isSome) = out) :
    p.sanitizeAttrs el out aps = some out := by
  rw [sanitizeAttrs_nf_link p el h1 h2 h3]
  generalize out.filter (fun a => (p.filterAttr el aps false a).isSome) = c at hurl hh
  split
  · rename_i he
    rw [List.isEmpty_iff.mp he, hardenStage_nil] at hh
    rw [hh]
  · rw [urlStage_fixed p el c hurl, Option.map_some, hh]

end BM.Props
