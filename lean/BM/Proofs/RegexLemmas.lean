import BM.Proofs.RegexSem
/-
  Soundness of a syntactic check on regular expressions with respect to the executable matcher
  `Re.m` / `Re.search` (Go's `MatchString`): `within A r` — every character class of `r` lies inside
  the alphabet `A` and, unless `A` is every rune, `r` has no `.` — so whatever `r` consumes consists of runes of `A`
  (`Matches.within`; `m_consumes` for the matcher).  With `anchoredBoth r` (`r` is `^ … $`, so a
  search succeeds only by matching the whole string): `search r s = true → ∀ c ∈ s, c ∈ A`.
-/
namespace BM.Re

/-- an alphabet: `none` = every rune, `some rs` = the union of the ranges -/
abbrev Alphabet := Option (List (Rune × Rune))

def Alphabet.mem (A : Alphabet) (c : Rune) : Bool :=
  match A with
  | .none => true
  | some rs => inRanges c rs

def rangeWithin (al : List (Rune × Rune)) (r : Rune × Rune) : Bool :=
  al.any fun (lo, hi) => lo ≤ r.1 && r.2 ≤ hi

def within (A : Alphabet) : Re → Bool
  | empty | none | bot | eot | bol | eol => true
  | cls rs => match A with
    | .none => true
    | some al => rs.all (rangeWithin al)
  | any | anyNL => A.isNone
  | cat a b | alt a b => within A a && within A b
  | star a | plus a | quest a | starL a | plusL a | questL a => within A a

theorem inRanges_of_within {al rs : List (Rune × Rune)} {c : Rune}
    (h : rs.all (rangeWithin al) = true) (hc : inRanges c rs = true) : inRanges c al = true := by
  obtain ⟨r, hr, h1, h2⟩ := inRanges_iff.mp hc
  have hw := List.all_eq_true.mp h r hr
  simp only [rangeWithin, List.any_eq_true, Bool.and_eq_true, decide_eq_true_eq] at hw
  obtain ⟨a, ha, ha1, ha2⟩ := hw
  exact inRanges_iff.mpr ⟨a, ha, Nat.le_trans ha1 h1, Nat.le_trans h2 ha2⟩

theorem consumed_append {P : Rune → Prop} {s s1 s2 : List Rune} :
    (∃ pre, s = pre ++ s1 ∧ ∀ c ∈ pre, P c) → (∃ pre, s1 = pre ++ s2 ∧ ∀ c ∈ pre, P c) →
      ∃ pre, s = pre ++ s2 ∧ ∀ c ∈ pre, P c
  | ⟨x, hx, hP⟩, ⟨y, hy, hQ⟩ =>
    ⟨x ++ y, by rw [hx, hy, List.append_assoc], fun c hc => (List.mem_append.mp hc).elim (hP c) (hQ c)⟩

theorem Matches.within {A : Alphabet} {r : Re} {p s p' s'} (h : Matches r p s p' s') (hw : within A r = true) :
    ∃ pre, s = pre ++ s' ∧ ∀ c ∈ pre, A.mem c = true := by
  induction h with
  | cls rs p c cs hin =>
    refine ⟨[c], rfl, fun x hx => ?_⟩
    rw [List.mem_singleton.mp hx]
    cases A with
    | none => rfl
    | some al => exact inRanges_of_within hw hin
  | anyNL p c cs | any p c cs =>
    rw [Re.within, Option.isNone_iff_eq_none] at hw
    exact ⟨[c], rfl, fun _ _ => by rw [hw]; rfl⟩
  | cat _ _ _ _ _ _ _ _ _ _ ih1 ih2 =>
    rw [Re.within, Bool.and_eq_true] at hw
    exact consumed_append (ih1 hw.1) (ih2 hw.2)
  | altL _ _ _ _ _ _ _ ih =>
    rw [Re.within, Bool.and_eq_true] at hw
    exact ih hw.1
  | altR _ _ _ _ _ _ _ ih =>
    rw [Re.within, Bool.and_eq_true] at hw
    exact ih hw.2
  | starS _ _ _ _ _ _ _ _ _ _ ih1 ih2 | starLS _ _ _ _ _ _ _ _ _ _ ih1 ih2 | plus _ _ _ _ _ _ _ _ _ ih1 ih2
  | plusL _ _ _ _ _ _ _ _ _ ih1 ih2 => exact consumed_append (ih1 hw) (ih2 hw)
  | questS _ _ _ _ _ _ ih | questLS _ _ _ _ _ _ ih => exact ih hw
  | _ => exact ⟨[], rfl, fun _ h => nomatch h⟩

/-- run with the continuation that reports how much input is left, the matcher has consumed a
    prefix over the alphabet -/
theorem m_consumes {A : Alphabet} {r : Re} (hw : within A r = true) {p : Option Rune} {s : List Rune} {rem : Nat}
    (h : (m r p s fun _ rest => some rest.length) = some rem) :
    rem ≤ s.length ∧ ∀ c ∈ s.take (s.length - rem), A.mem c = true := by
  obtain ⟨p', s', hm, hk⟩ := m_some r h
  obtain ⟨pre, rfl, hA⟩ := hm.within hw
  cases hk
  exact ⟨by simp, by simpa using hA⟩

/-- for `^ … $` within an alphabet, a successful search has read a string over it -/
theorem search_within (A : Alphabet) (r : Re) (ha : anchoredBoth r = true) (hw : within A r = true)
    (s : List Rune) (h : search r s = true) : ∀ c ∈ s, A.mem c = true := by
  obtain ⟨p', hm⟩ := (search_anchored r ha s).mp h
  obtain ⟨pre, hs, hA⟩ := hm.within hw
  rw [List.append_nil] at hs
  exact hs ▸ hA

theorem search_alphabet (A : List (Rune × Rune)) (r : Re) (ha : anchoredBoth r = true)
    (hw : within (some A) r = true) (s : List Rune) (h : search r s = true) :
    ∀ c ∈ s, inRanges c A = true :=
  search_within (some A) r ha hw s h

theorem all_rangeWithin_self (rs : List (Rune × Rune)) : rs.all (rangeWithin rs) = true :=
  List.all_eq_true.mpr fun r hr => List.any_eq_true.mpr ⟨r, hr, by simp⟩

/-! ### ascending range lists

  The classes `regexp/syntax` produces are ascending lists of ranges, and so are the documented alphabets.
  `withinSorted` is `within` for such lists: instead of comparing every range of a class with every range
  of the alphabet it walks down both lists together. -/

/-- `rs.all (rangeWithin al)` for ascending lists, in one pass over both: each range of `al` in turn
    takes the ranges of `rs` that lie inside it -/
def subRanges : List (Rune × Rune) → List (Rune × Rune) → Bool
  | rs, [] => rs.isEmpty
  | rs, (l, u) :: al => subRanges (rs.dropWhile fun r => Nat.ble l r.1 && Nat.ble r.2 u) al

theorem all_rangeWithin_of_subRanges : ∀ (al rs : List (Rune × Rune)), subRanges rs al = true →
    rs.all (rangeWithin al) = true
  | [], rs, h => by rw [List.isEmpty_iff.mp h]; rfl
  | (l, u) :: al, rs, h => by
    have ih := all_rangeWithin_of_subRanges al _ h
    rw [← List.takeWhile_append_dropWhile (p := fun r => Nat.ble l r.1 && Nat.ble r.2 u) (l := rs), List.all_append,
      Bool.and_eq_true]
    constructor
    · refine List.all_eq_true.mpr fun r hr => ?_
      have := List.all_eq_true.mp List.all_takeWhile r hr
      simp only [Bool.and_eq_true, Nat.ble_eq] at this
      simp [rangeWithin, this]
    · refine List.all_eq_true.mpr fun r hr => ?_
      have := List.all_eq_true.mp ih r hr
      rw [rangeWithin] at this
      rw [rangeWithin, List.any_cons, this, Bool.or_true]

/-- `within (some al)` with the classes checked by `subRanges` -/
def withinSorted (al : List (Rune × Rune)) : Re → Bool
  | cls rs => subRanges rs al
  | any | anyNL => false
  | cat a b | alt a b => withinSorted al a && withinSorted al b
  | star a | plus a | quest a | starL a | plusL a | questL a => withinSorted al a
  | _ => true

theorem within_of_sorted {al : List (Rune × Rune)} {r : Re} (h : withinSorted al r = true) : within (some al) r = true := by
  induction r with
  | cls rs => exact all_rangeWithin_of_subRanges al rs h
  | any | anyNL => cases h
  | cat a b iha ihb | alt a b iha ihb =>
    rw [withinSorted, Bool.and_eq_true] at h
    rw [within, iha h.1, ihb h.2]; rfl
  | star a ih | plus a ih | quest a ih | starL a ih | plusL a ih | questL a ih => exact ih h
  | _ => rfl

end BM.Re
