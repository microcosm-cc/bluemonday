import BM.Golite
/-
  The Go-lite interpreter read backwards: from `evalE … = some v`, `exec … = some r`, `loop … = some r`
  to what the parts evaluated to.  The interpreter's functions return `none` at fuel 0, so a run that
  produced a value had positive fuel (`evalE_pos`, `evalArgs_pos`, `exec_pos`, `loop_pos`).  An inversion of a
  construct with parts is stated for a run at fuel `k + 1` and speaks of the parts at fuel `k`: inside the
  inductions on fuel that is the form the hypothesis has, elsewhere `…_pos` comes first.  Literals, variables,
  the empty lists and `callFn` are read at any fuel (`callFn_inv` returns the fuel of the body); `evalArgs_one_inv`
  and `evalArgs_two_inv` return the fuel of each argument.  `.bin` has three lemmas: `&&`, `||` and the rest.
-/
namespace BM.Golite

theorem Env.get?_cons (p : String) (v : Val) (env : Env) (n : String) :
    Env.get? ((p, v) :: env) n = if p == n then some v else Env.get? env n := rfl

theorem Env.get?_set_self (env : Env) (n : String) (v : Val) : (env.set n v).get? n = some v := by
  induction env with
  | nil => simp [Env.set, Env.get?]
  | cons kv rest ih =>
    unfold Env.set
    split
    · rename_i hk; simp only [Env.get?, hk, ↓reduceIte]
    · rename_i hk; simp only [Env.get?, hk]; exact ih

theorem Env.get?_set_ne (env : Env) {n m : String} (v : Val) (h : m ≠ n) : (env.set n v).get? m = env.get? m := by
  induction env with
  | nil => simp [Env.set, Env.get?, Ne.symm h]
  | cons kv rest ih =>
    unfold Env.set
    split
    · rename_i hk
      have hkn : kv.1 = n := by simpa using hk
      simp [Env.get?, hkn, Ne.symm h]
    · simp only [Env.get?, ih]

variable {r : Env × Ctl}

theorem evalE_zero (e : Expr) : evalE c 0 env e = none := by rw [evalE]
theorem evalArgs_zero (es : List Expr) : evalArgs c 0 env es = none := by rw [evalArgs]
theorem exec_zero (l : List Stmt) : exec c 0 env l = none := by rw [exec]
theorem loop_zero (v : String) (l : List Bytes) (b : List Stmt) : loop c 0 env v l b = none := by
  rw [loop]
theorem callFn_zero (f : String) (s : Bytes) : callFn c 0 f s = none := by rw [callFn]

theorem evalE_pos {e : Expr} (h : evalE c k env e = some v) : ∃ j, k = j + 1 := by
  cases k with
  | zero => rw [evalE_zero] at h; cases h
  | succ j => exact ⟨j, rfl⟩

theorem evalArgs_pos {es : List Expr} {vs : List Val}
    (h : evalArgs c k env es = some vs) : ∃ j, k = j + 1 := by
  cases k with
  | zero => rw [evalArgs_zero] at h; cases h
  | succ j => exact ⟨j, rfl⟩

theorem exec_pos {l : List Stmt} (h : exec c k env l = some r) :
    ∃ j, k = j + 1 := by
  cases k with
  | zero => rw [exec_zero] at h; cases h
  | succ j => exact ⟨j, rfl⟩

theorem loop_pos {v : String} {l : List Bytes} {b : List Stmt} (h : loop c k env v l b = some r) : ∃ j, k = j + 1 := by
  cases k with
  | zero => rw [loop_zero] at h; cases h
  | succ j => exact ⟨j, rfl⟩

theorem evalE_var {n : String} (h : evalE c k env (.var n) = some v) :
    env.get? n = some v := by
  obtain ⟨k, rfl⟩ := evalE_pos h
  rw [evalE] at h; exact h

theorem evalE_str {s : Bytes} (h : evalE c k env (.str s) = some v) :
    v = .str s := by
  obtain ⟨k, rfl⟩ := evalE_pos h
  rw [evalE] at h; exact (Option.some.inj h).symm

theorem evalE_int {n : Int} (h : evalE c k env (.int n) = some v) :
    v = .int n := by
  obtain ⟨k, rfl⟩ := evalE_pos h
  rw [evalE] at h; exact (Option.some.inj h).symm

theorem evalE_bool {b : Bool} (h : evalE c k env (.bool b) = some v) :
    v = .bool b := by
  obtain ⟨k, rfl⟩ := evalE_pos h
  rw [evalE] at h; exact (Option.some.inj h).symm

theorem evalE_funcs {names : List String}
    (h : evalE c k env (.funcs names) = some v) : v = .funcs names := by
  obtain ⟨k, rfl⟩ := evalE_pos h
  rw [evalE] at h; exact (Option.some.inj h).symm

theorem evalE_not_inv {e : Expr} (h : evalE c (k + 1) env (.not e) = some v) :
    ∃ b, evalE c k env e = some (.bool b) ∧ v = .bool !b := by
  rw [evalE] at h
  split at h
  · rename_i b hb; exact ⟨b, hb, (Option.some.inj h).symm⟩
  · cases h

theorem evalE_and_inv {a b : Expr} {v : Val}
    (h : evalE c (k + 1) env (.bin "&&" a b) = some v) :
    (evalE c k env a = some (.bool false) ∧ v = .bool false) ∨
      (evalE c k env a = some (.bool true) ∧ evalE c k env b = some v) := by
  rw [evalE] at h
  simp only [beq_self_eq_true, ↓reduceIte] at h
  split at h
  · rename_i ha; exact .inl ⟨ha, (Option.some.inj h).symm⟩
  · rename_i ha; exact .inr ⟨ha, h⟩
  · cases h

theorem evalE_or_inv {a b : Expr} {v : Val}
    (h : evalE c (k + 1) env (.bin "||" a b) = some v) :
    (evalE c k env a = some (.bool true) ∧ v = .bool true) ∨
      (evalE c k env a = some (.bool false) ∧ evalE c k env b = some v) := by
  rw [evalE] at h
  simp only [show (("||" : String) == "&&") = false by decide, Bool.false_eq_true, beq_self_eq_true, ↓reduceIte] at h
  split at h
  · rename_i ha; exact .inl ⟨ha, (Option.some.inj h).symm⟩
  · rename_i ha; exact .inr ⟨ha, h⟩
  · cases h

/-- the value of `va op vb` for an operator other than `&&` and `||` -/
def binVal (op : String) : Val → Val → Option Val
  | .int x, .int y => (cmpInt op x y).map Val.bool
  | .str x, .str y =>
    if op == "==" then some (.bool (x == y)) else if op == "!=" then some (.bool (x != y))
    else if op == "+" then some (.str (x ++ y)) else none
  | .strs _, .nil => if op == "!=" then some (.bool true) else if op == "==" then some (.bool false) else none
  | _, _ => none

theorem evalE_bin_inv {op : String} {a b : Expr} {v : Val}
    (hand : (op == "&&") = false) (hor : (op == "||") = false) (h : evalE c (k + 1) env (.bin op a b) = some v) :
    ∃ va vb, evalE c k env a = some va ∧ evalE c k env b = some vb ∧ binVal op va vb = some v := by
  rw [evalE] at h
  simp only [hand, hor, Bool.false_eq_true, ↓reduceIte] at h
  split at h
  · rename_i ha hb; exact ⟨_, _, ha, hb, h⟩
  · rename_i ha hb; exact ⟨_, _, ha, hb, h⟩
  · rename_i ha hb; exact ⟨_, _, ha, hb, h⟩
  · cases h

theorem mapM_str (l : List Bytes) :
    (l.map Val.str).mapM (fun v => match v with | Val.str s => some s | _ => none) = some l := by
  induction l with
  | nil => rfl
  | cons s l ih => simp [List.mapM_cons, ih]

theorem mapM_str_inv : ∀ (vs : List Val) (l : List Bytes),
    vs.mapM (fun v => match v with | Val.str s => some s | _ => none) = some l → vs = l.map Val.str
  | [], l, h => by cases h; rfl
  | x :: xs, l, h => by
    rw [List.mapM_cons] at h
    cases x with
    | str s =>
      simp only [Option.bind_eq_bind, Option.bind_some, Option.bind_eq_some_iff, Option.pure_def,
        Option.some.injEq] at h
      obtain ⟨l', hl', rfl⟩ := h
      rw [mapM_str_inv xs l' hl']; rfl
    | _ => cases h

/-- the value of the builtin `f` applied to the values `vs` -/
def callVal (c : Ctx) (k : Nat) (f : String) (vs : List Val) : Option Val :=
  if f == "multiSplit" then
    match vs with
    | .str s :: seps =>
      (seps.mapM fun (v : Val) => match v with | Val.str x => some x | _ => none).map fun ss =>
        Val.strs (multiSplit s ss)
    | _ => none
  else
  match f, vs with
  | "len", [.strs l] => some (.int l.length)
  | "len", [.str s] => some (.int s.length)
  | "in", [.strs a, .strs b] => some (.bool (inList a b))
  | "splitValues", [.str s] => some (.strs (splitValues c.toLower s))
  | "strings.Split", [.str s, .str sep] => some (.strs (splitOn s sep))
  | "strings.TrimSpace", [.str s] => some (.str (Css.trimSpace s))
  | "strings.TrimSuffix", [.str s, .str suf] => some (.str (trimSuffix s suf))
  | "append", [.strs l, .str x] => some (.strs (l ++ [x]))
  | "appendSpread", [.strs l, .strs xs] => some (.strs (l ++ xs))
  | "recursiveCheck", [.strs vals, .funcs fs] =>
    some (.bool (recursiveCheck (fs.map fun fn v => callFn c k fn v == some true) vals).1)
  | _, _ => none

/- `callVal` on arguments of the right shape.  Trap: `rfl` here is quick, but a `cases`, `simp` or `unfold` that
   makes the elaborator match a long name such as "strings.TrimSuffix" against the patterns of `callVal` takes
   many seconds; rewrite with these equations. -/

theorem callVal_splitValues (s : Bytes) : callVal c k "splitValues" [.str s] = some (.strs (splitValues c.toLower s)) := rfl
theorem callVal_trimSpace (s : Bytes) : callVal c k "strings.TrimSpace" [.str s] = some (.str (Css.trimSpace s)) := rfl
theorem callVal_split (s sep : Bytes) : callVal c k "strings.Split" [.str s, .str sep] = some (.strs (splitOn s sep)) := rfl
theorem callVal_trimSuffix (s suf : Bytes) :
    callVal c k "strings.TrimSuffix" [.str s, .str suf] = some (.str (trimSuffix s suf)) := rfl
theorem callVal_len (l : List Bytes) : callVal c k "len" [.strs l] = some (.int l.length) := rfl

theorem callVal_multiSplit (s : Bytes) (l : List Bytes) :
    callVal c k "multiSplit" (.str s :: l.map .str) = some (.strs (multiSplit s l)) := by
  unfold callVal
  rw [if_pos (beq_self_eq_true _)]
  simp only [mapM_str, Option.map_some]

theorem callVal_in_inv {va vb : Val} (h : callVal c k "in" [va, vb] = some v) :
    ∃ la lb, va = .strs la ∧ vb = .strs lb ∧ v = .bool (inList la lb) := by
  cases va with
  | strs la =>
    cases vb with
    | strs lb => exact ⟨la, lb, rfl, rfl, (Option.some.inj h).symm⟩
    | _ => cases h
  | _ => cases h

theorem callVal_recursiveCheck_inv {va vb : Val}
    (h : callVal c k "recursiveCheck" [va, vb] = some v) :
    ∃ vals fs, va = .strs vals ∧ vb = .funcs fs ∧
      v = .bool (recursiveCheck (fs.map fun fn x => callFn c k fn x == some true) vals).1 := by
  cases va with
  | strs vals =>
    cases vb with
    | funcs fs => exact ⟨vals, fs, rfl, rfl, (Option.some.inj h).symm⟩
    | _ => cases h
  | _ => cases h

theorem callVal_append_inv {va vb : Val} (h : callVal c k "append" [va, vb] = some v) :
    ∃ l x, va = .strs l ∧ vb = .str x ∧ v = .strs (l ++ [x]) := by
  cases va with
  | strs l =>
    cases vb with
    | str x => exact ⟨l, x, rfl, rfl, (Option.some.inj h).symm⟩
    | _ => cases h
  | _ => cases h

theorem callVal_appendSpread_inv {va vb : Val}
    (h : callVal c k "appendSpread" [va, vb] = some v) :
    ∃ l xs, va = .strs l ∧ vb = .strs xs ∧ v = .strs (l ++ xs) := by
  cases va with
  | strs l =>
    cases vb with
    | strs xs => exact ⟨l, xs, rfl, rfl, (Option.some.inj h).symm⟩
    | _ => cases h
  | _ => cases h

theorem evalE_call_inv {f : String} {args : List Expr} {v : Val}
    (h : evalE c (k + 1) env (.call f args) = some v) :
    ∃ vs, evalArgs c k env args = some vs ∧ callVal c k f vs = some v := by
  rw [evalE] at h
  split at h
  · cases h
  · rename_i vs hvs; exact ⟨vs, hvs, h⟩

theorem evalE_handler_inv {f : String} {e : Expr} {v : Val}
    (h : evalE c (k + 1) env (.handler f e) = some v) :
    ∃ s b, evalE c k env e = some (.str s) ∧ callFn c k f s = some b ∧ v = .bool b := by
  rw [evalE] at h
  split at h
  · rename_i s hs
    obtain ⟨b, hb, rfl⟩ := Option.map_eq_some_iff.mp h
    exact ⟨s, b, hs, hb, rfl⟩
  · cases h

theorem evalE_reMatch_inv {r : String} {e : Expr} {v : Val}
    (h : evalE c (k + 1) env (.reMatch r e) = some v) :
    ∃ s re, evalE c k env e = some (.str s) ∧ c.regex? r = some re ∧ v = .bool (Re.matchBytes re s) := by
  rw [evalE] at h
  split at h
  · rename_i s re hs hre; exact ⟨s, re, hs, hre, (Option.some.inj h).symm⟩
  · cases h

theorem evalE_reFind_inv {r : String} {e : Expr} {v : Val}
    (h : evalE c (k + 1) env (.reFind r e) = some v) :
    ∃ s re, evalE c k env e = some (.str s) ∧ c.regex? r = some re ∧ v = .str (findString re s) := by
  rw [evalE] at h
  split at h
  · rename_i s re hs hre; exact ⟨s, re, hs, hre, (Option.some.inj h).symm⟩
  · cases h

theorem evalE_reDelete_inv {r : String} {e : Expr} {v : Val}
    (h : evalE c (k + 1) env (.reDelete r e) = some v) :
    ∃ s re, evalE c k env e = some (.str s) ∧ c.regex? r = some re ∧ v = .str (deleteAll re s) := by
  rw [evalE] at h
  split at h
  · rename_i s re hs hre; exact ⟨s, re, hs, hre, (Option.some.inj h).symm⟩
  · cases h

theorem evalE_index_inv {e i : Expr} {v : Val}
    (h : evalE c (k + 1) env (.index e i) = some v) :
    ∃ l n s, evalE c k env e = some (.strs l) ∧ evalE c k env i = some (.int n) ∧ l[n.toNat]? = some s ∧ v = .str s := by
  rw [evalE] at h
  split at h
  · rename_i l n hl hn
    split at h
    · cases h
    · obtain ⟨s, hs, rfl⟩ := Option.map_eq_some_iff.mp h
      exact ⟨l, n, s, hl, hn, hs, rfl⟩
  · cases h

theorem evalE_sliceFrom_inv {e lo : Expr} {v : Val}
    (h : evalE c (k + 1) env (.sliceFrom e lo) = some v) :
    ∃ l n, evalE c k env e = some (.strs l) ∧ evalE c k env lo = some (.int n) ∧ v = .strs (l.drop n.toNat) := by
  rw [evalE] at h
  split at h
  · rename_i l n hl hn
    split at h
    · cases h
    · exact ⟨l, n, hl, hn, (Option.some.inj h).symm⟩
  · cases h

theorem evalArgs_nil_inv {vs : List Val} (h : evalArgs c k env [] = some vs) : vs = [] := by
  obtain ⟨k, rfl⟩ := evalArgs_pos h
  rw [evalArgs] at h
  · exact (Option.some.inj h).symm
  · exact Nat.succ_ne_zero k

theorem evalArgs_cons_inv {e : Expr} {es : List Expr} {vs : List Val}
    (h : evalArgs c (k + 1) env (e :: es) = some vs) :
    ∃ v vs', evalE c k env e = some v ∧ evalArgs c k env es = some vs' ∧ vs = v :: vs' := by
  rw [evalArgs] at h
  split at h
  · rename_i v vs' h1 h2; exact ⟨v, vs', h1, h2, (Option.some.inj h).symm⟩
  · cases h

theorem evalArgs_one_inv {a : Expr} {vs : List Val}
    (h : evalArgs c k env [a] = some vs) : ∃ j va, k = j + 2 ∧ evalE c (j + 1) env a = some va ∧ vs = [va] := by
  obtain ⟨k, rfl⟩ := evalArgs_pos h
  obtain ⟨va, vs', h1, h2, rfl⟩ := evalArgs_cons_inv h
  obtain ⟨j, rfl⟩ := evalArgs_pos h2
  exact ⟨j, va, rfl, h1, by rw [evalArgs_nil_inv h2]⟩

theorem evalArgs_two_inv {a b : Expr} {vs : List Val}
    (h : evalArgs c k env [a, b] = some vs) :
    ∃ j va vb, k = j + 3 ∧ evalE c (j + 2) env a = some va ∧ evalE c (j + 1) env b = some vb ∧ vs = [va, vb] := by
  obtain ⟨k, rfl⟩ := evalArgs_pos h
  obtain ⟨va, vs', h1, h2, rfl⟩ := evalArgs_cons_inv h
  obtain ⟨j, vb, rfl, h3, rfl⟩ := evalArgs_one_inv h2
  exact ⟨j, va, vb, rfl, h1, h3, rfl⟩

theorem evalE_strs_inv {es : List Expr} {v : Val}
    (h : evalE c (k + 1) env (.strs es) = some v) :
    ∃ l : List Bytes, evalArgs c k env es = some (l.map Val.str) ∧ v = .strs l := by
  rw [evalE] at h
  obtain ⟨vs, hvs, h⟩ := Option.bind_eq_some_iff.mp h
  obtain ⟨l, hl, rfl⟩ := Option.map_eq_some_iff.mp h
  exact ⟨l, by rw [hvs, mapM_str_inv vs l hl], rfl⟩

theorem exec_nil_inv (h : exec c k env [] = some r) : r = (env, .next) := by
  obtain ⟨k, rfl⟩ := exec_pos h
  rw [exec] at h
  · exact (Option.some.inj h).symm
  · exact Nat.succ_ne_zero k

theorem exec_assign_inv {n : String} {e : Expr} {rest : List Stmt} (h : exec c (k + 1) env (.assign n e :: rest) = some r) :
    ∃ v, evalE c k env e = some v ∧ exec c k (env.set n v) rest = some r := by
  rw [exec] at h
  split at h
  · rename_i v hv; exact ⟨v, hv, h⟩
  · cases h

theorem exec_ret_inv {e : Expr} {rest : List Stmt} (h : exec c (k + 1) env (.ret e :: rest) = some r) :
    ∃ v, evalE c k env e = some v ∧ r = (env, .ret v) := by
  rw [exec] at h
  obtain ⟨v, hv, rfl⟩ := Option.map_eq_some_iff.mp h
  exact ⟨v, hv, rfl⟩

theorem exec_brk_inv {rest : List Stmt} (h : exec c (k + 1) env (.brk :: rest) = some r) : r = (env, .brk) := by
  rw [exec] at h; exact (Option.some.inj h).symm

theorem exec_cont_inv {rest : List Stmt} (h : exec c (k + 1) env (.cont :: rest) = some r) : r = (env, .cont) := by
  rw [exec] at h; exact (Option.some.inj h).symm

theorem seq_inv {K : Env → Option (Env × Ctl)} {q : Option (Env × Ctl)} (h : (match q with | some (e, .next) => K e | other => other) = some r) :
    (∃ e1, q = some (e1, .next) ∧ K e1 = some r) ∨ (q = some r ∧ r.2 ≠ .next) := by
  split at h
  · exact .inl ⟨_, rfl, h⟩
  · rename_i hno
    subst h
    exact .inr ⟨rfl, fun hc => hno r.1 (by rw [← hc])⟩

theorem exec_if_inv {cnd : Expr} {thn els rest : List Stmt} (h : exec c (k + 1) env (.ifS cnd thn els :: rest) = some r) :
    ∃ b, evalE c k env cnd = some (.bool b) ∧
      ((∃ e1, exec c k env (if b then thn else els) = some (e1, .next) ∧ exec c k e1 rest = some r) ∨
       (exec c k env (if b then thn else els) = some r ∧ r.2 ≠ .next)) := by
  rw [exec] at h
  split at h
  · rename_i b hb; exact ⟨b, hb, seq_inv h⟩
  · cases h

theorem exec_for_inv {v : String} {e : Expr} {body rest : List Stmt} (h : exec c (k + 1) env (.forRange v e body :: rest) = some r) :
    ∃ l, evalE c k env e = some (.strs l) ∧
      ((∃ e1, loop c k env v l body = some (e1, .next) ∧ exec c k e1 rest = some r) ∨
       (loop c k env v l body = some r ∧ r.2 ≠ .next)) := by
  rw [exec] at h
  split at h
  · rename_i l hl; exact ⟨l, hl, seq_inv h⟩
  · cases h

theorem loop_nil_inv {v : String} {body : List Stmt} (h : loop c k env v [] body = some r) : r = (env, .next) := by
  obtain ⟨k, rfl⟩ := loop_pos h
  rw [loop] at h
  · exact (Option.some.inj h).symm
  · exact Nat.succ_ne_zero k

theorem loop_cons_inv {v : String} {x : Bytes} {xs : List Bytes} {body : List Stmt}
    (h : loop c (k + 1) env v (x :: xs) body = some r) :
    ∃ e1 c1, exec c k (env.set v (.str x)) body = some (e1, c1) ∧
      (((c1 = .next ∨ c1 = .cont) ∧ loop c k e1 v xs body = some r) ∨ (c1 = .brk ∧ r = (e1, .next)) ∨
       ((∃ w, c1 = .ret w) ∧ r = (e1, c1))) := by
  rw [loop] at h
  split at h
  · rename_i e1 hb; exact ⟨e1, _, hb, .inl ⟨.inl rfl, h⟩⟩
  · rename_i e1 hb; exact ⟨e1, _, hb, .inl ⟨.inr rfl, h⟩⟩
  · rename_i e1 hb; exact ⟨e1, _, hb, .inr (.inl ⟨rfl, (Option.some.inj h).symm⟩)⟩
  · rename_i h1 h2 h3
    obtain ⟨e1, c1⟩ := r
    refine ⟨e1, c1, h, .inr (.inr ⟨?_, rfl⟩)⟩
    cases c1 with
    | next => exact absurd h (h1 e1)
    | cont => exact absurd h (h2 e1)
    | brk => exact absurd h (h3 e1)
    | ret w => exact ⟨w, rfl⟩

/-- a name some function of the program bears is found: as the first function of that name, which
    is all that `find?` promises -/
theorem func?_of_mem (c : Ctx) (f : String) (hf : f ∈ c.prog.funcs.map (·.name)) :
    ∃ fn, c.func? f = some fn ∧ fn ∈ c.prog.funcs := by
  obtain ⟨g, hg, rfl⟩ := List.mem_map.mp hf
  obtain ⟨fn, hfn⟩ := Option.isSome_iff_exists.mp
    (List.find?_isSome.mpr ⟨g, hg, beq_self_eq_true g.name⟩ : (c.func? g.name).isSome = true)
  exact ⟨fn, hfn, List.mem_of_find?_eq_some hfn⟩

theorem callFn_inv {f : String} {s : Bytes} {b : Bool} (h : callFn c k f s = some b) :
    ∃ j fn env', k = j + 1 ∧ c.func? f = some fn ∧
      exec c j ((fn.param, .str s) :: c.globals) fn.body = some (env', .ret (.bool b)) := by
  cases k with
  | zero => rw [callFn_zero] at h; cases h
  | succ j =>
    rw [callFn] at h
    split at h
    · cases h
    · rename_i fn hfn
      split at h
      · rename_i env' b' hex
        cases h
        exact ⟨j, fn, env', rfl, hfn, hex⟩
      · cases h

end BM.Golite
