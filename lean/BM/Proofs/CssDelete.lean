import BM.Proofs.CssClean
import BM.Proofs.RegexLemmas
import BM.Golite
/-
  The three regexp methods of css/handlers.go and hostile bytes.  `MatchString` with an anchored regexp
  whose matches lie in an alphabet without hostile characters accepts clean strings only
  (`Re.search_alphabet` of Proofs/RegexLemmas, then `clean_of_inRanges`: a string whose runes all lie in such an
  alphabet is clean).  `FindString` and `ReplaceAll(value, "")` look inside a value: when every rune the
  regexp can consume lies in such an alphabet, what `FindString` returns is clean (`clean_findString`), and a
  value is clean as soon as what is left of it after deleting the matches is (`clean_of_deleteAll`).
-/
namespace BM
open BM.Golite

def RuneOK (c : Rune) : Prop := ∀ b : UInt8, hostile b = true → c ≠ b.toNat

theorem clean_take_runes : ∀ (n : Nat) (s : Bytes), (∀ c ∈ (decodeRunes s).take n, RuneOK c) →
    Clean (s.take (Css.runesByteLen n s)) := by
  intro n
  induction n with
  | zero => intro s _; simp [Css.runesByteLen, clean_nil]
  | succ n ih =>
    intro s h
    cases s with
    | nil => simp [runesByteLen_nil, clean_nil]
    | cons b0 rest =>
      rw [decodeRunes_cons] at h
      simp only [List.take_succ_cons, List.mem_cons, forall_eq_or_imp] at h
      obtain ⟨h0, hrest⟩ := h
      have hih := ih _ hrest
      rw [runesByteLen_succ_cons, List.take_add]
      apply clean_append.mpr
      refine ⟨?_, hih⟩
      -- a hostile byte among those of the first rune would be that rune
      intro c hc
      refine Bool.eq_false_iff.mpr fun hh => ?_
      rw [(decodeRune_step_ascii hc (hostile_ascii hh)).2] at h0
      exact h0 c hh rfl

def InertAlphabet (al : List (Rune × Rune)) : Prop := ∀ b : UInt8, hostile b = true → Re.inRanges b.toNat al = false

theorem runeOK_of_mem {al : List (Rune × Rune)} (hal : InertAlphabet al) (c : Rune)
    (hc : Re.Alphabet.mem (some al) c = true) : RuneOK c := by
  intro b hb heq
  subst heq
  have := hal b hb
  simp only [Re.Alphabet.mem] at hc
  rw [this] at hc
  cases hc

/-- a string whose runes all lie in an alphabet without hostile characters is clean: a hostile byte is ASCII,
    so a rune of its own -/
theorem clean_of_inRanges (al : List (Rune × Rune)) (hal : InertAlphabet al) (s : Bytes)
    (hcl : ∀ c ∈ decodeRunes s, Re.inRanges c al = true) : Clean s := by
  intro c hc
  refine Bool.eq_false_iff.mpr fun hh => ?_
  have h1 := hcl c.toNat (ascii_mem_decodeRunes s c hc (hostile_ascii hh))
  rw [hal c hh] at h1
  cases h1

theorem clean_of_deleteAllAux (al : List (Rune × Rune)) (hal : InertAlphabet al) (re : Re)
    (hw : Re.within (some al) re = true) : ∀ (fuel : Nat) (prev : Option Rune) (s : Bytes), s.length < fuel →
      Clean (deleteAllAux re fuel prev s) → Clean s := by
  intro fuel
  induction fuel with
  | zero => intro prev s h; omega
  | succ fuel ih =>
    intro prev s hlen hcl
    cases s with
    | nil => exact clean_nil
    | cons b0 rest =>
      have hw1 := decodeRune_width_pos b0 rest
      have hkeep : ∀ prev', Clean ((b0 :: rest).take (decodeRune (b0 :: rest)).2 ++
          deleteAllAux re fuel prev' ((b0 :: rest).drop (decodeRune (b0 :: rest)).2)) → Clean (b0 :: rest) := by
        intro prev' h
        obtain ⟨h1, h2⟩ := clean_append.mp h
        have h3 := ih prev' _ (by simp only [List.length_drop, List.length_cons] at hlen ⊢; omega) h2
        rw [← List.take_append_drop (decodeRune (b0 :: rest)).2 (b0 :: rest)]
        exact clean_append.mpr ⟨h1, h3⟩
      unfold deleteAllAux at hcl
      simp only at hcl
      split at hcl
      · rename_i rem hm
        split at hcl
        · exact hkeep _ hcl
        · rename_i hn
          have hA := (Re.m_consumes hw hm).2
          have hnpos : 0 < (decodeRunes (b0 :: rest)).length - rem := by
            have : ¬ ((decodeRunes (b0 :: rest)).length - rem = 0) := by simpa using hn
            omega
          have hL : 1 ≤ Css.runesByteLen ((decodeRunes (b0 :: rest)).length - rem) (b0 :: rest) := by
            obtain ⟨k, hk⟩ := Nat.exists_eq_succ_of_ne_zero (Nat.pos_iff_ne_zero.mp hnpos)
            rw [hk]; exact runesByteLen_pos k b0 rest
          have h3 := ih _ _ (by simp only [List.length_drop, List.length_cons] at hlen ⊢; omega) hcl
          have h1 := clean_take_runes ((decodeRunes (b0 :: rest)).length - rem) (b0 :: rest)
            (fun c hc => runeOK_of_mem hal c (hA c hc))
          rw [← List.take_append_drop (Css.runesByteLen ((decodeRunes (b0 :: rest)).length - rem) (b0 :: rest)) (b0 :: rest)]
          exact clean_append.mpr ⟨h1, h3⟩
      · exact hkeep _ hcl

theorem clean_of_deleteAll (al : List (Rune × Rune)) (hal : InertAlphabet al) (re : Re)
    (hw : Re.within (some al) re = true) (s : Bytes) (h : Clean (deleteAll re s)) : Clean s :=
  clean_of_deleteAllAux al hal re hw (s.length + 1) none s (Nat.lt_succ_self _) h

/-- `Re.findFrom re i p s` tries a match at the start of `s` and, failing that, goes on behind the first rune with
    the index `i + 1`; it answers `(skip, n)`: the match starts at rune `skip` of the whole string — so
    `skip - i` runes into `s` — and is `n` runes long.  Those `n` runes are in the alphabet. -/
theorem findFrom_spec (al : List (Rune × Rune)) (re : Re) (hw : Re.within (some al) re = true) :
    ∀ (s : List Rune) (i : Nat) (p : Option Rune) (skip n : Nat), Re.findFrom re i p s = some (skip, n) →
      i ≤ skip ∧ ∀ c ∈ (s.drop (skip - i)).take n, Re.Alphabet.mem (some al) c = true := by
  intro s
  induction s with
  | nil =>
    intro i p skip n h
    simp only [Re.findFrom, Option.map_eq_some_iff, Prod.mk.injEq] at h
    obtain ⟨_, _, rfl, rfl⟩ := h
    exact ⟨Nat.le_refl _, by simp⟩
  | cons c cs ih =>
    intro i p skip n h
    unfold Re.findFrom at h
    split at h
    · rename_i rem hm
      simp only [Option.some.injEq, Prod.mk.injEq] at h
      obtain ⟨rfl, rfl⟩ := h
      have hA := (Re.m_consumes hw hm).2
      exact ⟨Nat.le_refl _, by simpa using hA⟩
    · obtain ⟨h1, h2⟩ := ih (i + 1) (some c) skip n h
      refine ⟨by omega, ?_⟩
      have : skip - i = (skip - (i + 1)) + 1 := by omega
      rw [this, List.drop_succ_cons]
      exact h2

theorem clean_findString (al : List (Rune × Rune)) (hal : InertAlphabet al) (re : Re)
    (hw : Re.within (some al) re = true) (s : Bytes) : Clean (findString re s) := by
  unfold findString
  simp only
  split
  · exact clean_nil
  · rename_i skip n hf
    obtain ⟨_, hA⟩ := findFrom_spec al re hw (decodeRunes s) 0 none skip n hf
    simp only [Nat.sub_zero] at hA
    rw [runesByteLen_add]
    simp only [Nat.add_sub_cancel_left]
    apply clean_take_runes
    rw [decodeRunes_drop]
    exact fun c hc => runeOK_of_mem hal c (hA c hc)

end BM
