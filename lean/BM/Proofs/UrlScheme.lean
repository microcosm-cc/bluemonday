import BM.Url
import BM.Spec.Oracles
import BM.Proofs.RtTag
/-
  The bridge between net/url and a browser, scheme half (C03): the scheme net/url's Parse
  returns is well formed and lower case, `URL.String` prints it first, followed by a colon, and
  the WHATWG scheme-state classifier (`Spec.classifyUrl`) reads exactly that scheme back from
  the printed URL.  So a value `validURL` returns for a URL *with* a scheme is one a browser
  resolves to that scheme.
-/
namespace BM.Url
open BM BM.Spec

def schemeByte (c : UInt8) : Bool := isAlnum c || c == 43 || c == 45 || c == 46

/-- a scheme as RFC 3986 / WHATWG spell it -/
def SchemeForm (s : Bytes) : Prop :=
  ∃ c cs, s = c :: cs ∧ isAlpha c = true ∧ ∀ x ∈ cs, schemeByte x = true

theorem schemeByte_of_alpha {c : UInt8} (h : isAlpha c = true) : schemeByte c = true := by
  simp only [schemeByte, isAlnum, h, Bool.true_or]

theorem solid_of_schemeByte {c : UInt8} (h : schemeByte c = true) : isC0OrSpace c = false := by
  simp only [schemeByte, isAlnum, isAlpha, isUpper, isLowerA, isDigit, isC0OrSpace, Bool.or_eq_true,
    Bool.and_eq_true, decide_eq_true_eq, decide_eq_false_iff_not, beq_iff_eq, UInt8.le_iff_toNat_le,
    ← UInt8.toNat_inj, UInt8.reduceToNat] at h ⊢
  omega

/-- a byte above 0x20 survives the classifier's removal of tab and newlines -/
theorem kept_of_solid {c : UInt8} (h : isC0OrSpace c = false) : (c != 9 && c != 10 && c != 13) = true := by
  simp only [isC0OrSpace, decide_eq_false_iff_not, UInt8.le_iff_toNat_le, Bool.and_eq_true, bne_iff_ne, ne_eq,
    ← UInt8.toNat_inj, UInt8.reduceToNat] at h ⊢
  omega

theorem lowerByte_eq_or (c : UInt8) : lowerByte c = c ∨ isLowerA (lowerByte c) = true :=
  (Bool.eq_false_or_eq_true (isUpper c)).symm.imp (Html.lowerByte_spec c).1 (Html.lowerByte_spec c).2.1

/-- One step down an `if`-cascade, leaving the rest of it untouched (`split at h` simplifies the rest again
    at every step, which is slow on `parseNoFrag`). -/
theorem of_ite_eq {α} {c : Prop} [Decidable c] {a b r : α} (h : (if c then a else b) = r) :
    c ∧ a = r ∨ ¬c ∧ b = r := by
  split at h
  · exact .inl ⟨‹c›, h⟩
  · exact .inr ⟨‹¬c›, h⟩

theorem schemeForm_snoc {pre : Bytes} {c : UInt8} (hpre : pre = [] ∨ SchemeForm pre)
    (hc : schemeByte c = true) (h0 : pre = [] → isAlpha c = true) : SchemeForm (pre ++ [c]) := by
  rcases hpre with rfl | ⟨d, ds, rfl, hd, hds⟩
  · exact ⟨c, [], rfl, h0 rfl, by simp⟩
  · refine ⟨d, ds ++ [c], rfl, hd, fun x hx => ?_⟩
    rcases List.mem_append.mp hx with hx | hx
    · exact hds x hx
    · rw [List.mem_singleton.mp hx]; exact hc

theorem getSchemeAux_form : ∀ (s pre : Bytes) (sch rest : Bytes),
    (pre = [] ∨ SchemeForm pre) →
    getSchemeAux (pre ++ s) pre.length s = .ok sch rest → sch = [] ∨ SchemeForm sch
  | [], pre, sch, rest, _, h => by
    simp only [getSchemeAux] at h
    injection h with h1 _
    exact .inl h1.symm
  | c :: cs, pre, sch, rest, hpre, h => by
    unfold getSchemeAux at h
    -- the scan goes on behind a byte that extends the scheme read so far
    have next : schemeByte c = true → (pre = [] → isAlpha c = true) →
        getSchemeAux (pre ++ c :: cs) (pre.length + 1) cs = .ok sch rest → sch = [] ∨ SchemeForm sch := by
      intro hc h0 h
      rw [show pre ++ c :: cs = (pre ++ [c]) ++ cs by simp,
        show pre.length + 1 = (pre ++ [c]).length by simp] at h
      exact getSchemeAux_form cs (pre ++ [c]) sch rest (.inr (schemeForm_snoc hpre hc h0)) h
    rcases of_ite_eq h with ⟨halpha, h⟩ | ⟨_, h⟩
    · exact next (schemeByte_of_alpha halpha) (fun _ => halpha) h
    rcases of_ite_eq h with ⟨hdig, h⟩ | ⟨_, h⟩
    · rcases of_ite_eq h with ⟨_, h⟩ | ⟨hi, h⟩
      · injection h with h1 _; exact .inl h1.symm
      · refine next ?_ (fun hp => absurd (by simp [hp]) hi) h
        simp only [schemeByte, isAlnum, Bool.or_assoc] at hdig ⊢
        rw [hdig]; exact Bool.or_true _
    rcases of_ite_eq h with ⟨_, h⟩ | ⟨_, h⟩
    · rcases of_ite_eq h with ⟨_, h⟩ | ⟨_, h⟩
      · cases h
      · injection h with h1 _
        rw [← h1, List.take_left']
        · exact hpre
        · rfl
    · injection h with h1 _; exact .inl h1.symm

/-- a scheme as Parse stores it: well formed and lower case -/
def SchemeOK (s : Bytes) : Prop := SchemeForm s ∧ lowerAscii s = s

theorem schemeOK_lower (s : Bytes) (h : s = [] ∨ SchemeForm s) : lowerAscii s = [] ∨ SchemeOK (lowerAscii s) := by
  rcases h with rfl | ⟨c, cs, rfl, hc, hcs⟩
  · exact .inl rfl
  · right
    -- lower-casing keeps a byte or turns it into a lower-case letter, which it then keeps
    have alpha : ∀ x, isAlpha x = true → isAlpha (lowerByte x) = true := fun x hx => by
      rcases lowerByte_eq_or x with h | h
      · rw [h]; exact hx
      · simp only [isAlpha, h, Bool.or_true]
    refine ⟨⟨lowerByte c, lowerAscii cs, rfl, alpha c hc, ?_⟩, ?_⟩
    · intro x hx
      obtain ⟨y, hy, rfl⟩ := List.mem_map.mp hx
      rcases lowerByte_eq_or y with h | h
      · rw [h]; exact hcs y hy
      · exact schemeByte_of_alpha (by simp only [isAlpha, h, Bool.or_true])
    · exact Html.lowerAscii_idem (c :: cs)

theorem setPath_keeps {u u' : URL} {p : Bytes} (h : setPath u p = some u') :
    u'.scheme = u.scheme ∧ u'.opaq = u.opaq := by
  obtain ⟨_, _, rfl⟩ := Option.map_eq_some_iff.mp h
  exact ⟨rfl, rfl⟩

theorem setFragment_keeps {u u' : URL} {f : Bytes} (h : setFragment u f = some u') :
    u'.scheme = u.scheme ∧ u'.opaq = u.opaq := by
  obtain ⟨_, _, rfl⟩ := Option.map_eq_some_iff.mp h
  exact ⟨rfl, rfl⟩

theorem parseNoFrag_shape (raw : Bytes) (u : URL) (h : parseNoFrag raw = some u) :
    (u.scheme = [] ∨ SchemeOK u.scheme) ∧ (u.scheme = [] → u.opaq = []) := by
  unfold parseNoFrag at h
  rcases of_ite_eq h with ⟨_, h⟩ | ⟨_, h⟩
  · cases h
  rcases of_ite_eq h with ⟨_, h⟩ | ⟨_, h⟩
  · cases h; exact ⟨.inl rfl, fun _ => rfl⟩
  split at h
  · cases h
  rename_i scheme rest0 hgs
  have hform := schemeOK_lower scheme (getSchemeAux_form raw [] scheme rest0 (.inl rfl) hgs)
  simp only at h
  -- how the query is cut off plays no part
  generalize (if hasSuffix [63] rest0 && count 63 rest0 == 1 then _ else _ : Bytes × Bytes × Bool) = q at h
  obtain ⟨rest, rawQuery, forceQuery⟩ := q
  simp only at h
  generalize lowerAscii scheme = s at h hform
  -- `setPath` is handed a URL with scheme `s` and no opaque part in each of its three calls
  have viaSetPath : ∀ (u0 : URL) (p : Bytes), u0.scheme = s → u0.opaq = [] → setPath u0 p = some u →
      (u.scheme = [] ∨ SchemeOK u.scheme) ∧ (u.scheme = [] → u.opaq = []) := by
    intro u0 p hs ho hu
    obtain ⟨hs', ho'⟩ := setPath_keeps hu
    rw [hs', ho', hs, ho]
    exact ⟨hform, fun _ => rfl⟩
  rcases of_ite_eq h with ⟨hopaque, h⟩ | ⟨_, h⟩
  · -- the opaque form needs a scheme
    cases h
    refine ⟨hform, fun hs => ?_⟩
    simp only at hs
    simp [hs] at hopaque
  rcases of_ite_eq h with ⟨_, h⟩ | ⟨_, h⟩
  · cases h
  rcases of_ite_eq h with ⟨_, h⟩ | ⟨_, h⟩
  · split at h
    · cases h
    · exact viaSetPath _ _ rfl rfl h
  rcases of_ite_eq h with ⟨_, h⟩ | ⟨_, h⟩ <;> exact viaSetPath _ _ rfl rfl h

theorem parse_shape (raw : Bytes) (u : URL) (h : parse raw = some u) :
    (u.scheme = [] ∨ SchemeOK u.scheme) ∧ (u.scheme = [] → u.opaq = []) := by
  unfold parse at h
  simp only at h
  split at h
  · cases h
  rename_i url hurl
  have hshape := parseNoFrag_shape _ url hurl
  split at h
  · cases h; exact hshape
  · obtain ⟨hs, ho⟩ := setFragment_keeps h
    rw [hs, ho]; exact hshape

theorem parse_scheme (raw : Bytes) (u : URL) (h : parse raw = some u) : u.scheme = [] ∨ SchemeOK u.scheme :=
  (parse_shape raw u h).1

def printAuth (u : URL) : Bytes :=
  if !u.scheme.isEmpty || !u.host.isEmpty || u.hasUser then
    if u.omitHost && u.host.isEmpty && !u.hasUser then []
    else
      (if !u.host.isEmpty || !u.path.isEmpty || u.hasUser then b!"//" else []) ++
      (if u.hasUser then userString u ++ [64] else []) ++
      (if !u.host.isEmpty then escape .host u.host else [])
  else []

/-- an authority begins with a slash (it is printed behind `//`) -/
theorem printAuth_form (u : URL) : printAuth u = [] ∨ ∃ x, printAuth u = 47 :: x := by
  generalize hA : printAuth u = A
  unfold printAuth at hA
  rcases of_ite_eq hA with ⟨_, hA⟩ | ⟨_, rfl⟩
  · rcases of_ite_eq hA with ⟨_, rfl⟩ | ⟨_, rfl⟩
    · exact .inl rfl
    · split
      · exact .inr ⟨_, rfl⟩
      · -- neither host nor user: nothing is printed
        rename_i h
        simp only [Bool.or_eq_true, Bool.not_eq_true', not_or, Bool.not_eq_false, Bool.not_eq_true] at h
        simp [h.1.1, h.2]
  · exact .inl rfl

/-- the part of `URL.String` before query and fragment, when there is no opaque part -/
def printHier (u : URL) (head : Bytes) : Bytes :=
  let buf := head ++ printAuth u
  let path := escapedPath u
  let buf := if !path.isEmpty && path.head? != some 47 && !u.host.isEmpty then buf ++ [47] else buf
  let buf := if buf.isEmpty && (cut 47 path).1.contains 58 then b!"./" else buf
  buf ++ path

def printTail (u : URL) (body : Bytes) : Bytes :=
  let body := if u.forceQuery || !u.rawQuery.isEmpty then body ++ 63 :: u.rawQuery else body
  if !u.fragment.isEmpty then body ++ 35 :: escapedFragment u else body

theorem print_eq (u : URL) :
    print u = printTail u (let head := if u.scheme.isEmpty then [] else u.scheme ++ [58]
      if !u.opaq.isEmpty then head ++ u.opaq else printHier u head) := rfl

/-- query / fragment part of the printed URL: nothing, or something behind `?` or `#` -/
def TailForm (t : Bytes) : Prop := t = [] ∨ ∃ r, t = 63 :: r ∨ t = 35 :: r

theorem printTail_form (u : URL) (body : Bytes) : ∃ T, printTail u body = body ++ T ∧ TailForm T := by
  unfold printTail
  simp only
  split <;> split
  · exact ⟨63 :: u.rawQuery ++ 35 :: escapedFragment u, by simp, .inr ⟨_, .inl rfl⟩⟩
  · exact ⟨35 :: escapedFragment u, rfl, .inr ⟨_, .inr rfl⟩⟩
  · exact ⟨63 :: u.rawQuery, rfl, .inr ⟨_, .inl rfl⟩⟩
  · exact ⟨[], by simp, .inl rfl⟩

/-- behind a non-empty head nothing is put in front -/
theorem printHier_prefix (u : URL) (a : UInt8) (as : Bytes) : ∃ x, printHier u (a :: as) = a :: as ++ x := by
  unfold printHier
  simp only [List.cons_append]
  split <;> simp only [List.cons_append, List.isEmpty_cons, Bool.false_and, Bool.false_eq_true, ↓reduceIte,
    List.append_assoc] <;> exact ⟨_, rfl⟩

theorem print_scheme_prefix (u : URL) (h : u.scheme ≠ []) : ∃ tail, print u = u.scheme ++ 58 :: tail := by
  obtain ⟨T, hT, _⟩ := printTail_form u (if !u.opaq.isEmpty then (u.scheme ++ [58]) ++ u.opaq
    else printHier u (u.scheme ++ [58]))
  have he : u.scheme.isEmpty = false := by simpa using h
  rw [print_eq]
  simp only [he, Bool.false_eq_true, ↓reduceIte]
  rw [hT]
  split
  · exact ⟨u.opaq ++ T, by simp⟩
  · obtain ⟨c, cs, hcs⟩ := List.exists_cons_of_ne_nil (l := u.scheme ++ [58]) (by simp)
    obtain ⟨x, hx⟩ := printHier_prefix u c cs
    exact ⟨x ++ T, by rw [hcs, hx, ← hcs]; simp⟩

theorem dropWhile_append_stop {α} (P : α → Bool) (l1 : List α) (x : α) (l2 : List α) (hx : P x = false) :
    (l1 ++ x :: l2).dropWhile P = l1.dropWhile P ++ x :: l2 := by
  induction l1 with
  | nil => simp [List.dropWhile, hx]
  | cons a as ih =>
    simp only [List.cons_append, List.dropWhile]
    split
    · exact ih
    · rfl

/-- what `classifyUrl` does to a value behind its first byte above 0x20: strip C0-or-space bytes
    at the end, delete tab and newlines -/
def normTail (v : Bytes) : Bytes :=
  (v.reverse.dropWhile isC0OrSpace).reverse.filter fun c => c != 9 && c != 10 && c != 13

/-- the scheme-start and scheme states of `classifyUrl`, on the normalised value -/
def classifyNorm (v : Bytes) : UrlClass :=
  match v with
  | c :: _ =>
    if isAlpha c then
      let s := v.takeWhile schemeByte
      if (v.drop s.length).head? == some 58 then .scheme (lowerAscii s) else .relative
    else .relative
  | [] => .relative

theorem classifyUrl_eq (v : Bytes) : classifyUrl v = classifyNorm (normTail (v.dropWhile isC0OrSpace)) := rfl

theorem normTail_cons {x : UInt8} (l : Bytes) (hx : isC0OrSpace x = false) : normTail (x :: l) = x :: normTail l := by
  unfold normTail
  rw [List.reverse_cons, dropWhile_append_stop _ _ _ _ hx, List.reverse_append, List.reverse_cons,
    List.reverse_nil, List.nil_append, List.singleton_append]
  exact List.filter_cons_of_pos (kept_of_solid hx)

theorem normTail_append {P : Bytes} (t : Bytes) (hP : ∀ c ∈ P, isC0OrSpace c = false) :
    normTail (P ++ t) = P ++ normTail t := by
  induction P with
  | nil => rfl
  | cons c cs ih =>
    rw [List.cons_append, normTail_cons _ (hP c (by simp)), ih (fun x hx => hP x (by simp [hx])), List.cons_append]

theorem classifyUrl_cons {x : UInt8} (l : Bytes) (hx : isC0OrSpace x = false) :
    classifyUrl (x :: l) = classifyNorm (x :: normTail l) := by
  rw [classifyUrl_eq, List.dropWhile_cons_of_neg (by simp [hx]), normTail_cons l hx]

theorem classify_scheme_prefix (s tail : Bytes) (hs : SchemeOK s) : classifyUrl (s ++ 58 :: tail) = .scheme s := by
  obtain ⟨⟨c, cs, rfl, hc, hcs⟩, hlow⟩ := hs
  have hall : ∀ x ∈ c :: cs, schemeByte x = true := by
    intro x hx
    rcases List.mem_cons.mp hx with rfl | hx
    · exact schemeByte_of_alpha hc
    · exact hcs x hx
  -- the normalisation stops at the colon at the latest
  rw [List.cons_append, classifyUrl_cons _ (solid_of_schemeByte (hall c (by simp))),
    normTail_append _ (fun x hx => solid_of_schemeByte (hcs x hx)), normTail_cons _ (by decide)]
  simp only [classifyNorm, hc, ↓reduceIte]
  rw [← List.cons_append, List.takeWhile_append_of_pos hall, List.takeWhile_cons_of_neg (by decide), List.append_nil,
    List.drop_left, hlow]
  rfl

/-- what `URL.String` prints for a URL with a well-formed lower-case scheme, wherever the URL comes from -/
theorem print_scheme_class (u : URL) (h : SchemeOK u.scheme) : classifyUrl (print u) = .scheme u.scheme := by
  obtain ⟨tail, ht⟩ := print_scheme_prefix u (by obtain ⟨⟨c, cs, hcs, _⟩, _⟩ := h; rw [hcs]; exact List.cons_ne_nil _ _)
  rw [ht]; exact classify_scheme_prefix u.scheme tail h

/-- **C03 bridge, scheme half**: for a URL net/url parsed with a scheme, a browser extracts
    exactly that scheme from what `URL.String` prints -/
theorem printed_scheme_is_browser_scheme (raw : Bytes) (u : URL) (hp : parse raw = some u) (hs : u.scheme ≠ []) :
    classifyUrl (print u) = .scheme u.scheme :=
  print_scheme_class u ((parse_scheme raw u hp).resolve_left hs)

end BM.Url
