import BM.Proofs.LoopState
import BM.Proofs.RtDoc
/-
  Text preservation (C06): `textOf` through `coalesce` and `reread`, and the loop states in which a text token is
  written (`Quiet`: outside every skipped region and every script/style body).
-/
namespace BM
open Html Spec

theorem textOf_cons (t : Token) (ts : List Token) :
    textOf (t :: ts) = (if t.tt == .text then t.data else []) ++ textOf ts := by
  unfold textOf
  by_cases h : (t.tt == TT.text) = true <;> simp [h]

theorem textOf_nil : textOf [] = [] := rfl

theorem textOf_text {t : Token} (h : t.tt = .text) : textOf [t] = t.data := by
  rw [textOf_cons, h, if_pos (show (TT.text == TT.text) = true from rfl)]
  exact List.append_nil _

theorem textOf_append (a b : List Token) : textOf (a ++ b) = textOf a ++ textOf b := by
  simp [textOf]

theorem textOf_flushText (d : Bytes) : textOf (flushText d) = d := by
  unfold flushText
  split
  · rename_i h; simp [textOf, List.isEmpty_iff.mp h]
  · have : ((TT.text == TT.text) = true) := by decide
    simp [textOf, this]

theorem textOf_coalesce : ∀ (ts : List Token) (d : Bytes), textOf (coalesce d ts) = d ++ textOf ts
  | [], d => by
    simp only [coalesce, textOf_flushText]
    simp [textOf]
  | t :: ts, d => by
    simp only [coalesce]
    split
    · rename_i h
      rw [textOf_coalesce ts, textOf_cons, h]; simp
    · rename_i h
      have h' : (t.tt == TT.text) = false := by simpa using h
      rw [textOf_append, textOf_flushText, textOf_cons, textOf_coalesce ts, textOf_cons, h']
      simp

theorem textOf_map_reread (ts : List Token) : textOf (ts.map reread) = textOf ts := by
  unfold textOf
  rw [filter_map_reread _ fun k h => by rw [h]; rfl]

theorem Props.noSpaces_append (a b : Bytes) : noSpaces (a ++ b) = noSpaces a ++ noSpaces b := by
  simp [noSpaces, List.filter_append]

/-- the loop is outside every skipped region and outside every script/style body -/
def Quiet (st : LoopState) : Prop :=
  st.skipElementContent = false ∧ isScriptOrStyle st.mostRecentlyStartedToken = false

/-- a token that cannot start skipping or a script/style body -/
def CalmTok (p : Policy) (t : Token) : Prop :=
  isTag t = true → isScriptOrStyle t.data = false ∧ p.setOfElementsToSkipContent.contains t.data = false

theorem step_recent (p : Policy) (st : LoopState) (t : Token) (st' : LoopState) (ws : List Write)
    (h : p.step st t = some (st', ws)) (hr : isScriptOrStyle st.mostRecentlyStartedToken = false)
    (hns : isTag t = true → isScriptOrStyle t.data = false) :
    isScriptOrStyle st'.mostRecentlyStartedToken = false := by
  by_cases htag : isTag t = true
  · have hss := hns htag
    have hc : isScriptOrStyle (clearRecent st t.data).mostRecentlyStartedToken = false := by
      unfold clearRecent; split
      · rfl
      · exact hr
    rcases (step_tag h htag).1 with rfl | rfl | ⟨rfl, _⟩ | rfl | rfl | rfl | rfl
    · exact hss
    · unfold Policy.enterSkip; split <;> exact hss
    · unfold pushDropped; split <;> exact hss
    · unfold markKept; split <;> exact hss
    · exact hc
    · exact hc
    · unfold Policy.leaveSkip popMarker; split <;> split <;> exact hc
  · rw [step_nontag h (by simpa using htag)]; exact hr

theorem step_quiet (p : Policy) (st : LoopState) (t : Token) (st' : LoopState) (ws : List Write)
    (h : p.step st t = some (st', ws)) (hq : Quiet st) (hc : CalmTok p t) : Quiet st' := by
  refine ⟨?_, step_recent p st t st' ws h hq.2 fun ht => (hc ht).1⟩
  by_cases htag : isTag t = true
  · rcases (step_tag h htag).1 with rfl | rfl | ⟨rfl, _⟩ | rfl | rfl | rfl | rfl
    · exact hq.1
    · rw [Policy.enterSkip, (hc htag).2]; exact hq.1
    · rw [pushDropped_skip]; exact hq.1
    · rw [markKept_skip]; exact hq.1
    · rw [clearRecent_skip]; exact hq.1
    · exact (clearRecent_skip st t.data).trans hq.1
    · exact leaveSkip_skip_of_not_skipping p (by rw [popMarker_skip, clearRecent_skip]; exact hq.1) _
  · rw [step_nontag h (by simpa using htag)]; exact hq.1

end BM
