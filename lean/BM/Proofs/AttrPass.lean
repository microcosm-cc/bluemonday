import BM.Sanitize
import BM.Spec.Oracles
/-
  `sanitizeAttrs` is the first pass (`filterAttr`), the URL pass (`urlStage`) and then the passes that add
  or force attributes (`later`: link hardening, forced crossorigin, forced sandbox).  Each later pass owns
  a few attribute names; for every other name `k` it leaves `l.filter (·.key == k)` as it is.  Hence an
  attribute of its result is an attribute of its argument or carries a name the pass owns
  (`mem_of_filter_eq`), and every "the later passes preserve …" statement follows from `later_mem`.
-/
namespace BM
open Html Spec

theorem holds_ite {α} {Q : α → Prop} {c : Bool} (f : α → α) {x : α} (hx : Q x) (hf : Q x → c = true → Q (f x)) :
    Q (if c then f x else x) := by
  split
  · exact hf hx ‹_›
  · exact hx

/-- for an `if` whose condition holds a `match`, where `split` would go for the match -/
theorem ite_eq_cases {α} {c : Prop} [Decidable c] {x y z : α} (h : (if c then x else y) = z) :
    (c ∧ x = z) ∨ (¬c ∧ y = z) := by
  split at h
  · exact .inl ⟨‹_›, h⟩
  · exact .inr ⟨‹_›, h⟩

theorem mem_of_filter_eq {l l' : List Attr} {b : Attr}
    (h : l'.filter (·.key == b.key) = l.filter (·.key == b.key)) (hb : b ∈ l') : b ∈ l := by
  have : b ∈ l'.filter (·.key == b.key) := List.mem_filter.mpr ⟨hb, beq_self_eq_true _⟩
  rw [h] at this
  exact (List.mem_filter.mp this).1

theorem filter_map_of_fixed {k : Bytes} {f : Attr → Attr} (hk : ∀ a, (f a).key = a.key) (hf : ∀ a, a.key = k → f a = a)
    (l : List Attr) : (l.map f).filter (·.key == k) = l.filter (·.key == k) := by
  induction l with
  | nil => rfl
  | cons a as ih =>
    simp only [List.map_cons, List.filter_cons, hk, ih]
    split
    · rw [hf a (beq_iff_eq.mp ‹_›)]
    · rfl

theorem any_key_map {f : Attr → Attr} (hk : ∀ a, (f a).key = a.key) (l : List Attr) (k : Bytes) :
    (l.map f).any (·.key == k) = l.any (·.key == k) := by
  induction l with
  | nil => rfl
  | cons a as ih => simp only [List.map_cons, List.any_cons, hk, ih]

theorem any_key_filter (l : List Attr) (k : Bytes) :
    l.any (·.key == k) = (l.filter (·.key == k)).any fun _ => true := by
  simp only [List.any_filter, Bool.and_true]

theorem filter_append_ne {k : Bytes} {x : Attr} (hx : x.key ≠ k) (l : List Attr) :
    (l ++ [x]).filter (·.key == k) = l.filter (·.key == k) := by
  simp [List.filter_append, hx]

theorem mapMOpt_mem {α β} (f : α → Option (Option β)) : ∀ (l : List α) (out : List β),
    mapMOpt f l = some out → ∀ y ∈ out, ∃ x ∈ l, f x = some (some y)
  | [], out, h => by simp [mapMOpt] at h; subst h; simp
  | x :: xs, out, h => by
    unfold mapMOpt at h
    split at h
    · rename_i y ys hfx hrec
      simp at h; subst h
      intro z hz
      simp only [List.mem_cons] at hz
      rcases hz with rfl | hz
      · exact ⟨x, by simp, hfx⟩
      · obtain ⟨w, hw, hfw⟩ := mapMOpt_mem f xs ys hrec z hz
        exact ⟨w, by simp [hw], hfw⟩
    · rename_i ys hfx hrec
      simp at h; subst h
      intro z hz
      obtain ⟨w, hw, hfw⟩ := mapMOpt_mem f xs _ hrec z hz
      exact ⟨w, by simp [hw], hfw⟩
    · simp at h

theorem accepted_get {m : AttrRules} {k v : Bytes}
    (h : (match m.get? k with | some apl => attrPoliciesAccept apl v | none => false) = true) :
    ∃ apl, m.get? k = some apl ∧ attrPoliciesAccept apl v = true := by
  cases hg : m.get? k with
  | none => rw [hg] at h; cases h
  | some apl => rw [hg] at h; exact ⟨apl, rfl, h⟩

/-- the branches of `filterAttr` that return an attribute, in the order it tests them -/
theorem filterAttr_some {p : Policy} {el : Bytes} {aps : AttrRules} {hs : Bool} {a b : Attr}
    (h : p.filterAttr el aps hs a = some b) :
    ((p.allowDataAttributes && isDataAttribute a.key) = true ∧ b = a) ∨
    ((p.allowDataAttributes && isDataAttribute a.key) = false ∧
      (((a.key == b!"style" && hs) = true ∧ p.sanitizeStyles a.val el ≠ [] ∧ b = ⟨a.key, p.sanitizeStyles a.val el⟩) ∨
       ((a.key == b!"style" && hs) = false ∧ b = a ∧
         ((∃ apl, aps.get? a.key = some apl ∧ attrPoliciesAccept apl a.val = true) ∨
          (∃ apl, p.globalAttrs.get? a.key = some apl ∧ attrPoliciesAccept apl a.val = true))))) := by
  unfold Policy.filterAttr at h
  rcases ite_eq_cases h with ⟨hd, h⟩ | ⟨hd, h⟩
  · exact .inl ⟨hd, (Option.some.inj h).symm⟩
  refine .inr ⟨Bool.eq_false_iff.mpr hd, ?_⟩
  rcases ite_eq_cases h with ⟨hs, h⟩ | ⟨hs, h⟩
  · rcases ite_eq_cases h with ⟨_, h⟩ | ⟨hv, h⟩
    · cases h
    · exact .inl ⟨hs, by simpa using hv, (Option.some.inj h).symm⟩
  refine .inr ⟨Bool.eq_false_iff.mpr hs, ?_⟩
  rcases ite_eq_cases h with ⟨he, h⟩ | ⟨_, h⟩
  · exact ⟨(Option.some.inj h).symm, .inl (accepted_get he)⟩
  rcases ite_eq_cases h with ⟨hg, h⟩ | ⟨_, h⟩
  · exact ⟨(Option.some.inj h).symm, .inr (accepted_get hg)⟩
  · cases h

/-- only the style branch changes the attribute -/
theorem filterAttr_eq_of_ne_style {p : Policy} {el : Bytes} {aps : AttrRules} {hs : Bool} {a b : Attr}
    (h : p.filterAttr el aps hs a = some b) (hk : b.key ≠ b!"style") : a = b := by
  rcases filterAttr_some h with ⟨_, rfl⟩ | ⟨_, ⟨hst, _, rfl⟩ | ⟨_, rfl, _⟩⟩
  · rfl
  · rw [Bool.and_eq_true, beq_iff_eq] at hst; exact absurd hst.1 hk
  · rfl

theorem filterAttr_key (p : Policy) (el : Bytes) (aps : AttrRules) (hs : Bool) (a b : Attr)
    (h : p.filterAttr el aps hs a = some b) : b.key = a.key := by
  rcases filterAttr_some h with ⟨_, rfl⟩ | ⟨_, ⟨_, _, rfl⟩ | ⟨_, rfl, _⟩⟩ <;> rfl

theorem linkable_eq (el : Bytes) : linkable el = (isHrefElement el || isCiteElement el || isSrcElement el) := by
  simp only [linkable, isHrefElement, isCiteElement, isSrcElement, Bool.or_assoc]

theorem isUrlPosition_eq (el k : Bytes) : isUrlPosition el k =
    ((k == b!"href" && isHrefElement el) || (k == b!"cite" && isCiteElement el) || (k == b!"src" && isSrcElement el)) := rfl

theorem isUrlPosition_key {el k : Bytes} (h : isUrlPosition el k = true) : k = b!"href" ∨ k = b!"cite" ∨ k = b!"src" := by
  simp only [isUrlPosition_eq, Bool.or_eq_true, Bool.and_eq_true, beq_iff_eq] at h
  rcases h with (h | h) | h
  · exact .inl h.1
  · exact .inr (.inl h.1)
  · exact .inr (.inr h.1)

/-- the three element classes are disjoint, which is why the order of the tests in `urlPassAttr` does not matter -/
theorem urlClasses_disjoint (el : Bytes) :
    (isCiteElement el = true → isHrefElement el = false) ∧
    (isSrcElement el = true → isHrefElement el = false ∧ isCiteElement el = false) := by
  constructor
  · intro h
    simp only [isCiteElement, Bool.or_eq_true, beq_iff_eq] at h
    rcases h with ((h | h) | h) | h <;> subst h <;> decide
  · intro h
    simp only [isSrcElement, Bool.or_eq_true, beq_iff_eq] at h
    rcases h with (((((((h | h) | h) | h) | h) | h) | h) | h) | h <;> subst h <;> decide

/-- `urlPassAttr` at a URL position, in one form for the three names (`urlPassAttr_at`) -/
def Policy.urlAt (p : Policy) (a : Attr) : Option (Option Attr) :=
  match p.validURL a.val with
  | none => some none
  | some u =>
    match (if a.key == b!"src" then p.srcRewriter else none) with
    | none => some (some ⟨a.key, u⟩)
    | some f =>
      match Url.parse u with
      | none => some none
      | some parsed => some (some ⟨a.key, Url.print (f parsed)⟩)

theorem urlAt_key {p : Policy} {a b : Attr} (h : p.urlAt a = some (some b)) : b.key = a.key := by
  unfold Policy.urlAt at h
  repeat' split at h
  all_goals first | cases h; rfl | cases h

theorem urlAt_plain {p : Policy} {a : Attr} (hr : a.key = b!"src" → p.srcRewriter = none) :
    p.urlAt a = some ((p.validURL a.val).map fun u => ⟨a.key, u⟩) := by
  have : (if a.key == b!"src" then p.srcRewriter else none) = none := by
    split
    · exact hr (beq_iff_eq.mp ‹_›)
    · rfl
  unfold Policy.urlAt
  rw [this]
  cases p.validURL a.val <;> rfl

theorem urlPassAttr_off {p : Policy} {el : Bytes} {a : Attr} (h : isUrlPosition el a.key = false) :
    p.urlPassAttr el a = some (some a) := by
  simp only [isUrlPosition_eq, Bool.or_eq_false_iff] at h
  obtain ⟨⟨h1, h2⟩, h3⟩ := h
  have off : ∀ {k e : Bool}, (k && e) = false → e = true → ¬ k = true := by
    intro k e h he hk
    rw [hk, he] at h
    cases h
  unfold Policy.urlPassAttr
  by_cases he : isHrefElement el = true
  · rw [if_pos he, if_neg (off h1 he)]
  rw [if_neg he]
  by_cases hc : isCiteElement el = true
  · rw [if_pos hc, if_neg (off h2 hc)]
  rw [if_neg hc]
  by_cases hs : isSrcElement el = true
  · rw [if_pos hs, if_neg (off h3 hs)]
  · rw [if_neg hs]

theorem urlPassAttr_at {p : Policy} {el : Bytes} {a : Attr} (h : isUrlPosition el a.key = true) :
    p.urlPassAttr el a = p.urlAt a := by
  simp only [isUrlPosition_eq, Bool.or_eq_true, Bool.and_eq_true] at h
  obtain ⟨hcite, hsrc⟩ := urlClasses_disjoint el
  unfold Policy.urlPassAttr
  rcases h with (⟨hk, he⟩ | ⟨hk, he⟩) | ⟨hk, he⟩
  · rw [if_pos he, if_pos hk, urlAt_plain fun e => absurd (beq_iff_eq.mp hk ▸ e) (by decide)]
  · rw [if_neg (Bool.eq_false_iff.mp (hcite he)), if_pos he, if_pos hk,
      urlAt_plain fun e => absurd (beq_iff_eq.mp hk ▸ e) (by decide)]
  · rw [if_neg (Bool.eq_false_iff.mp (hsrc he).1), if_neg (Bool.eq_false_iff.mp (hsrc he).2), if_pos he, if_pos hk]
    unfold Policy.urlAt
    rw [if_pos hk]
    -- the two sides are written with different auxiliary matchers: equal only on constructors
    cases p.validURL a.val with
    | none => rfl
    | some u => cases p.srcRewriter <;> rfl

/-- at a URL position, with no rewriter in play for this attribute, the value is replaced by what `validURL` returns -/
theorem urlPass_checked (p : Policy) (el : Bytes) (a : Attr) (hpos : isUrlPosition el a.key = true)
    (hsrc : a.key = b!"src" → p.srcRewriter = none) :
    p.urlPassAttr el a = some ((p.validURL a.val).map fun u => ⟨a.key, u⟩) := by
  rw [urlPassAttr_at hpos, urlAt_plain hsrc]

/-- what the URL pass hands on: the attribute itself, or at a URL position what `urlAt` makes of it -/
theorem urlPassAttr_origin {p : Policy} {el : Bytes} {a b : Attr} (h : p.urlPassAttr el a = some (some b)) :
    b = a ∨ (isUrlPosition el a.key = true ∧ p.urlAt a = some (some b)) := by
  cases hpos : isUrlPosition el a.key
  · rw [urlPassAttr_off hpos] at h
    cases h
    exact .inl rfl
  · exact .inr ⟨rfl, urlPassAttr_at hpos ▸ h⟩

theorem urlPassAttr_some {p : Policy} {el : Bytes} {a b : Attr} (h : p.urlPassAttr el a = some (some b)) :
    b.key = a.key ∧ (b.val = a.val ∨ isUrlPosition el a.key = true) := by
  rcases urlPassAttr_origin h with rfl | ⟨hpos, h⟩
  · exact ⟨rfl, .inl rfl⟩
  · exact ⟨urlAt_key h, .inr hpos⟩

theorem urlPassAttr_key (p : Policy) (el : Bytes) (a b : Attr)
    (h : p.urlPassAttr el a = some (some b)) : b.key = a.key := (urlPassAttr_some h).1

theorem setVal_key (k : Bytes) (v : Attr → Bytes) (a : Attr) : (setVal k v a).key = a.key := by
  unfold setVal; split <;> rfl

theorem setVal_other (k : Bytes) (v : Attr → Bytes) (a : Attr) (h : a.key ≠ k) : setVal k v a = a :=
  if_neg (by simpa using h)

theorem setVal_val (k : Bytes) (v : Attr → Bytes) (a : Attr) (h : (setVal k v a).key = k) :
    (setVal k v a).val = v a := by
  rw [setVal_key] at h
  unfold setVal; simp [h]

theorem relFix_key (nf nr : Bool) (a : Attr) : (relFix nf nr a).key = a.key := by
  unfold relFix; split <;> rfl

theorem relFix_other (nf nr : Bool) (a : Attr) (h : a.key ≠ b!"rel") : relFix nf nr a = a :=
  if_neg (by simp [h])

/-- the shape the noopener, crossorigin and sandbox blocks share -/
def forceKey (k : Bytes) (v : Attr → Bytes) (dflt : Bytes) (l : List Attr) : List Attr :=
  if l.any (·.key == k) then l.map (setVal k v) else l ++ [⟨k, dflt⟩]

theorem addNoOpener_eq_forceKey (l : List Attr) :
    addNoOpener l = forceKey b!"rel" (fun a => addRelToken true b!"noopener" a.val) b!"noopener" l := rfl

theorem forceCrossOrigin_eq (p : Policy) (el : Bytes) (l : List Attr) :
    p.forceCrossOrigin el l =
      if p.requireCrossOriginAnonymous && l.length > 0 && isCrossOriginElement el then
        forceKey b!"crossorigin" (fun _ => b!"anonymous") b!"anonymous" l
      else l := rfl

theorem forceSandbox_eq (p : Policy) (el : Bytes) (l : List Attr) :
    p.forceSandbox el l =
      match p.requireSandboxOnIFrame with
      | some allowed =>
        if el == b!"iframe" then
          forceKey b!"sandbox" (fun a => joinBytes [32] (dedupKeep allowed (fields a.val) [])) [] l
        else l
      | none => l := rfl

theorem forceKey_filter {k k' : Bytes} (h : k' ≠ k) (v : Attr → Bytes) (d : Bytes) (l : List Attr) :
    (forceKey k v d l).filter (·.key == k') = l.filter (·.key == k') := by
  unfold forceKey
  split
  · exact filter_map_of_fixed (setVal_key k v) (fun a ha => setVal_other k v a (ha ▸ h)) l
  · exact filter_append_ne (Ne.symm h) l

theorem forceKey_mem {k : Bytes} {v : Attr → Bytes} {d : Bytes} {l : List Attr} {b : Attr} (h : b ∈ forceKey k v d l) :
    b ∈ l ∨ b.key = k := by
  by_cases hk : b.key = k
  · exact .inr hk
  · exact .inl (mem_of_filter_eq (forceKey_filter hk v d l) h)

theorem forceKey_origin {k : Bytes} {v : Attr → Bytes} {d : Bytes} {l : List Attr} {a : Attr} (h : a ∈ forceKey k v d l) :
    (∃ y ∈ l, a = setVal k v y) ∨ ((∀ y ∈ l, y.key ≠ k) ∧ a = ⟨k, d⟩) := by
  unfold forceKey at h
  split at h
  · obtain ⟨y, hy, rfl⟩ := List.mem_map.mp h
    exact .inl ⟨y, hy, rfl⟩
  · rename_i hnone
    rcases List.mem_append.mp h with h | h
    · exact .inl ⟨a, h, (setVal_other k v a fun e => hnone (List.any_eq_true.mpr ⟨a, h, by simp [e]⟩)).symm⟩
    · exact .inr ⟨fun y hy e => hnone (List.any_eq_true.mpr ⟨y, hy, by simp [e]⟩), List.mem_singleton.mp h⟩

theorem forceKey_spec {Q : Bytes → Prop} {k : Bytes} {v : Attr → Bytes} {d : Bytes} (hv : ∀ a, Q (v a)) (hd : Q d)
    (l : List Attr) :
    (∃ a ∈ forceKey k v d l, a.key = k) ∧ ∀ a ∈ forceKey k v d l, a.key = k → Q a.val := by
  constructor
  · unfold forceKey
    split
    · obtain ⟨x, hx, hk⟩ := List.any_eq_true.mp ‹_›
      exact ⟨_, List.mem_map.mpr ⟨x, hx, rfl⟩, by rw [setVal_key]; exact beq_iff_eq.mp hk⟩
    · exact ⟨⟨k, d⟩, by simp, rfl⟩
  · intro a ha hk
    rcases forceKey_origin ha with ⟨y, _, rfl⟩ | ⟨_, rfl⟩
    · rw [setVal_val k v y hk]; exact hv y
    · exact hd

theorem fixFirstTarget_filter {k : Bytes} (hk : k ≠ b!"target") (l : List Attr) :
    (fixFirstTarget l).filter (·.key == k) = l.filter (·.key == k) := by
  induction l with
  | nil => rfl
  | cons a as ih =>
    unfold fixFirstTarget
    split
    · rename_i hka
      have hne : (a.key == k) = false := by rw [beq_iff_eq.mp hka]; simpa using Ne.symm hk
      split
      · rfl
      · simp only [List.filter_cons, hne]; rfl
    · simp only [List.filter_cons, ih]

theorem map_relFix_id (nf nr : Bool) (l : List Attr) (h : (nf || nr) = false ∨ l.any (·.key == b!"rel") = false) :
    l.map (relFix nf nr) = l := by
  have : ∀ a ∈ l, relFix nf nr a = a := fun a ha => by
    rcases h with h | h
    · exact if_neg (by rw [h, Bool.and_false]; exact Bool.false_ne_true)
    · exact relFix_other nf nr a (by simpa using List.any_eq_false.mp h a ha)
  rw [List.map_congr_left this, List.map_id']

theorem fixFirstTarget_id (l : List Attr) (h : l.any (·.key == b!"target") = false) : fixFirstTarget l = l := by
  induction l with
  | nil => rfl
  | cons a as ih =>
    rw [List.any_cons, Bool.or_eq_false_iff] at h
    rw [fixFirstTarget, if_neg (by rw [h.1]; exact Bool.false_ne_true), ih h.2]

theorem fixFirstTarget_targets (l : List Attr) :
    (fixFirstTarget l).filter (·.key == b!"target") =
      match l.filter (·.key == b!"target") with
      | [] => []
      | a :: as => (if asciiEqualFold a.val b!"_blank" then a else ⟨a.key, b!"_blank"⟩) :: as := by
  induction l with
  | nil => rfl
  | cons x xs ih =>
    unfold fixFirstTarget
    cases hx : x.key == b!"target"
    · simp only [Bool.false_eq_true, ↓reduceIte, List.filter_cons, hx]
      exact ih
    · simp only [↓reduceIte, List.filter_cons, hx]
      split <;> simp only

end BM

namespace BM.Props
open BM BM.Html

def hasHostHref (l : List Attr) : Bool :=
  (l.filter (·.key == b!"href")).any fun a => match Url.parse a.val with
    | some u => !u.host.isEmpty
    | none => false

/-- the hardening block once the three decisions are taken: `nf`, `nr` — nofollow, noreferrer are to be
    added; `tb` — target `_blank` is to be set (on an `a`) -/
def hardenCore (isA nf nr tb : Bool) (clean : List Attr) : List Attr :=
  let hasRel := clean.any (·.key == b!"rel")
  let hasTarget := clean.any (·.key == b!"target")
  let out := clean.map (relFix nf nr)
  let out := if isA && tb then fixFirstTarget out else out
  let out := if (nf || nr) && !hasRel then out ++ [⟨b!"rel", newRelValue nf nr⟩] else out
  let blankFound := isA &&
    ((clean.any fun a => a.key == b!"target" && asciiEqualFold a.val b!"_blank") || (tb && hasTarget))
  let out := if isA && tb && !blankFound then out ++ [⟨b!"target", b!"_blank"⟩] else out
  if blankFound || (isA && tb) then addNoOpener out else out

theorem hardenLinks_core (p : Policy) (el : Bytes) (l : List Attr) :
    p.hardenLinks el l =
      if (l.filter (·.key == b!"href")).isEmpty then l
      else hardenCore (el == b!"a") (p.requireNoFollow || (hasHostHref l && p.requireNoFollowFullyQualifiedLinks))
        (p.requireNoReferrer || (hasHostHref l && p.requireNoReferrerFullyQualifiedLinks))
        (hasHostHref l && p.addTargetBlankToFullyQualifiedLinks) l := rfl

end BM.Props

namespace BM
open Html Spec Props

theorem hardenCore_ind {Q : List Attr → Prop} {isA nf nr tb : Bool} {l : List Attr}
    (h0 : Q (l.map (relFix nf nr)))
    (htgt : (isA && tb) = true → ∀ m, Q m → Q (fixFirstTarget m) ∧ Q (m ++ [⟨b!"target", b!"_blank"⟩]))
    (hrel : ∀ m, Q m → Q (m ++ [⟨b!"rel", newRelValue nf nr⟩]))
    (hno : ∀ m, Q m → Q (addNoOpener m)) : Q (hardenCore isA nf nr tb l) := by
  refine holds_ite addNoOpener (holds_ite (· ++ [_]) (holds_ite (· ++ [_]) (holds_ite fixFirstTarget h0 ?_) ?_) ?_) ?_
  · exact fun h c => (htgt c _ h).1
  · exact fun h _ => hrel _ h
  · exact fun h c => (htgt (Bool.and_eq_true_iff.mp c).1 _ h).2
  · exact fun h _ => hno _ h

theorem hardenCore_filter {k : Bytes} {isA nf nr tb : Bool} (hr : k ≠ b!"rel")
    (ht : k = b!"target" → (isA && tb) = false) (l : List Attr) :
    (hardenCore isA nf nr tb l).filter (·.key == k) = l.filter (·.key == k) := by
  refine hardenCore_ind (Q := fun m => m.filter (·.key == k) = l.filter (·.key == k)) ?_ ?_ ?_ ?_
  · exact filter_map_of_fixed (relFix_key nf nr) (fun a ha => relFix_other nf nr a (ha ▸ hr)) l
  · intro c m hm
    have hk : k ≠ b!"target" := fun e => by rw [ht e] at c; exact Bool.false_ne_true c
    exact ⟨(fixFirstTarget_filter hk m).trans hm, (filter_append_ne (Ne.symm hk) m).trans hm⟩
  · exact fun m hm => (filter_append_ne (Ne.symm hr) m).trans hm
  · exact fun m hm => (forceKey_filter hr _ _ m).trans hm

theorem hardenLinks_filter {p : Policy} {el k : Bytes} {l : List Attr} (hr : k ≠ b!"rel")
    (ht : k = b!"target" → (el == b!"a" && (hasHostHref l && p.addTargetBlankToFullyQualifiedLinks)) = false) :
    (p.hardenLinks el l).filter (·.key == k) = l.filter (·.key == k) := by
  rw [hardenLinks_core]
  split
  · rfl
  · exact hardenCore_filter hr ht l

theorem hardenCore_mem {isA nf nr tb : Bool} {l : List Attr} {b : Attr} (h : b ∈ hardenCore isA nf nr tb l) :
    b ∈ l ∨ b.key = b!"rel" ∨ (b.key = b!"target" ∧ (isA && tb) = true) := by
  by_cases hr : b.key = b!"rel"
  · exact .inr (.inl hr)
  · cases hg : isA && tb
    · exact .inl (mem_of_filter_eq (hardenCore_filter hr (fun _ => hg) l) h)
    · by_cases ht : b.key = b!"target"
      · exact .inr (.inr ⟨ht, rfl⟩)
      · exact .inl (mem_of_filter_eq (hardenCore_filter hr (fun e => absurd e ht) l) h)

theorem hardenLinks_mem {p : Policy} {el : Bytes} {l : List Attr} {b : Attr} (h : b ∈ p.hardenLinks el l) :
    b ∈ l ∨ b.key = b!"rel" ∨ (b.key = b!"target" ∧ p.addTargetBlankToFullyQualifiedLinks = true ∧ el = b!"a") := by
  rw [hardenLinks_core] at h
  split at h
  · exact .inl h
  · refine (hardenCore_mem h).imp_right (.imp_right fun ⟨ht, hg⟩ => ?_)
    rw [Bool.and_eq_true, Bool.and_eq_true, beq_iff_eq] at hg
    exact ⟨ht, hg.2.2, hg.1⟩

/-- `none` = panic (as in `urlPassAttr`) -/
def Policy.urlStage (p : Policy) (el : Bytes) (l : List Attr) : Option (List Attr) :=
  if linkable el && p.requireParseableURLs then mapMOpt (p.urlPassAttr el) l else some l

/-- the hardening block with its guard -/
def Policy.hardenStage (p : Policy) (el : Bytes) (l : List Attr) : List Attr :=
  if anyLinkOption p && decide (l.length > 0) && isHrefElement el then p.hardenLinks el l else l

/-- the passes behind the URL pass: hardening, crossorigin, sandbox -/
def Policy.later (p : Policy) (el : Bytes) (l : List Attr) : List Attr :=
  p.forceSandbox el (p.forceCrossOrigin el (p.hardenStage el l))

theorem linkPasses_eq (p : Policy) (el : Bytes) (l : List Attr) :
    p.linkPasses el l = (p.urlStage el l).map (p.hardenStage el) := by
  unfold Policy.linkPasses Policy.urlStage
  cases hl : linkable el
  · have : isHrefElement el = false := by
      rw [linkable_eq, Bool.or_eq_false_iff, Bool.or_eq_false_iff] at hl
      exact hl.1.1
    simp only [Bool.false_eq_true, ↓reduceIte, Bool.false_and, Option.map_some, Policy.hardenStage, this, Bool.and_false]
  · cases p.requireParseableURLs <;> rfl

theorem sanitizeAttrs_eq (p : Policy) (el : Bytes) (attrs : List Attr) (aps : AttrRules) :
    p.sanitizeAttrs el attrs aps =
      if (attrs.filterMap (p.filterAttr el aps (p.hasStylePolicies el))).isEmpty then some []
      else (p.urlStage el (attrs.filterMap (p.filterAttr el aps (p.hasStylePolicies el)))).map (p.later el) := by
  unfold Policy.sanitizeAttrs
  simp only [linkPasses_eq, Option.map_map]
  cases attrs with
  | nil => rfl
  | cons a as =>
    simp only [List.isEmpty_cons, Bool.false_eq_true, ↓reduceIte]
    split
    · rename_i he
      rw [List.isEmpty_iff.mp he]
    · rfl

theorem sanitizeAttrs_some {p : Policy} {el : Bytes} {attrs : List Attr} {aps : AttrRules} {out : List Attr}
    (h : p.sanitizeAttrs el attrs aps = some out) :
    out = [] ∨ ∃ m, p.urlStage el (attrs.filterMap (p.filterAttr el aps (p.hasStylePolicies el))) = some m ∧
      out = p.later el m := by
  rw [sanitizeAttrs_eq] at h
  split at h
  · exact .inl (Option.some.inj h).symm
  · obtain ⟨m, hm, rfl⟩ := Option.map_eq_some_iff.mp h
    exact .inr ⟨m, hm, rfl⟩

/-- `cleanAttrs` is `sanitizeAttrs` on the token's name and attributes: its test for an empty list is one
    `sanitizeAttrs` makes itself -/
theorem cleanAttrs_eq (p : Policy) (t : Token) (aps : AttrRules) : p.cleanAttrs t aps = p.sanitizeAttrs t.data t.attrs aps := by
  unfold Policy.cleanAttrs Policy.sanitizeAttrs
  split <;> rfl

theorem hardenStage_filter {p : Policy} {el k : Bytes} (hr : k ≠ b!"rel") (ht : k ≠ b!"target") (l : List Attr) :
    (p.hardenStage el l).filter (·.key == k) = l.filter (·.key == k) := by
  unfold Policy.hardenStage
  split
  · exact hardenLinks_filter hr fun e => absurd e ht
  · rfl

theorem hardenStage_eq {p : Policy} {el : Bytes} {l : List Attr} (hel : isHrefElement el = true) (hne : l ≠ []) :
    p.hardenStage el l = if anyLinkOption p then p.hardenLinks el l else l := by
  unfold Policy.hardenStage
  rw [decide_eq_true (List.length_pos_iff.mpr hne), hel, Bool.and_true, Bool.and_true]

theorem urlStage_some {p : Policy} {el : Bytes} {l m : List Attr} (h : p.urlStage el l = some m) :
    (¬(linkable el = true ∧ p.requireParseableURLs = true) ∧ m = l) ∨
    (linkable el = true ∧ p.requireParseableURLs = true ∧ mapMOpt (p.urlPassAttr el) l = some m) := by
  unfold Policy.urlStage at h
  split at h
  · rename_i hc
    rw [Bool.and_eq_true] at hc
    exact .inr ⟨hc.1, hc.2, h⟩
  · rename_i hc
    rw [Bool.and_eq_true] at hc
    exact .inl ⟨hc, (Option.some.inj h).symm⟩

theorem urlStage_origin {p : Policy} {el : Bytes} {l m : List Attr} (h : p.urlStage el l = some m) {b : Attr} (hb : b ∈ m) :
    ∃ a ∈ l, b = a ∨ (isUrlPosition el a.key = true ∧ p.urlAt a = some (some b)) := by
  rcases urlStage_some h with ⟨_, rfl⟩ | ⟨_, _, h⟩
  · exact ⟨b, hb, .inl rfl⟩
  · obtain ⟨a, ha, hab⟩ := mapMOpt_mem _ l m h b hb
    exact ⟨a, ha, urlPassAttr_origin hab⟩

theorem urlStage_mem {p : Policy} {el : Bytes} {l m : List Attr} (h : p.urlStage el l = some m) {b : Attr} (hb : b ∈ m) :
    ∃ a ∈ l, b.key = a.key ∧ (b.val = a.val ∨ isUrlPosition el a.key = true) := by
  obtain ⟨a, ha, rfl | ⟨hpos, h⟩⟩ := urlStage_origin h hb
  · exact ⟨b, ha, rfl, .inl rfl⟩
  · exact ⟨a, ha, urlAt_key h, .inr hpos⟩

theorem urlStage_off (p : Policy) (h : p.requireParseableURLs = false) (el : Bytes) (c : List Attr) :
    p.urlStage el c = some c := by
  simp [Policy.urlStage, h]

theorem mapMOpt_all_fix {α} (f : α → Option (Option α)) (l : List α) (h : ∀ b ∈ l, f b = some (some b)) :
    mapMOpt f l = some l := by
  induction l with
  | nil => rfl
  | cons x xs ih =>
    unfold mapMOpt
    rw [h x (by simp), ih (fun b hb => h b (by simp [hb]))]

theorem urlStage_fixed (p : Policy) (el : Bytes) (u : List Attr)
    (h : p.requireParseableURLs = true → ∀ a ∈ u, p.urlPassAttr el a = some (some a)) : p.urlStage el u = some u := by
  unfold Policy.urlStage
  split
  · rename_i hc
    exact mapMOpt_all_fix _ _ (h (Bool.and_eq_true_iff.mp hc).2)
  · rfl

theorem hardenStage_nil (p : Policy) (el : Bytes) : p.hardenStage el [] = [] := by
  simp [Policy.hardenStage]

theorem hardenStage_not_href (p : Policy) (el : Bytes) (h : isHrefElement el = false) (u : List Attr) :
    p.hardenStage el u = u := by
  simp [Policy.hardenStage, h]

theorem anyLinkOption_off {p : Policy} (h1 : p.requireNoFollow = false) (h2 : p.requireNoFollowFullyQualifiedLinks = false)
    (h3 : p.requireNoReferrer = false) (h4 : p.requireNoReferrerFullyQualifiedLinks = false)
    (h5 : p.addTargetBlankToFullyQualifiedLinks = false) : anyLinkOption p = false := by
  simp [anyLinkOption, h1, h2, h3, h4, h5]

/-- no link option: the hardening stage does nothing -/
theorem hardenStage_off (p : Policy) (h : anyLinkOption p = false) (el : Bytes) (u : List Attr) :
    p.hardenStage el u = u := by
  simp [Policy.hardenStage, h]

/-- without the two forced attributes the later passes are the hardening stage -/
theorem later_off (p : Policy) (h2 : p.requireCrossOriginAnonymous = false) (h3 : p.requireSandboxOnIFrame = none)
    (el : Bytes) (c : List Attr) : p.later el c = p.hardenStage el c := by
  simp [Policy.later, Policy.forceSandbox, Policy.forceCrossOrigin, h2, h3]

/-- keys of the attributes the later passes add or overwrite -/
def addedKey (k : Bytes) : Prop := k = b!"rel" ∨ k = b!"target" ∨ k = b!"crossorigin" ∨ k = b!"sandbox"

/-- the policy instructs the sanitiser to add or force attribute `k` on element `el` -/
def AddedFor (p : Policy) (el k : Bytes) : Prop :=
  (k = b!"rel" ∧ anyLinkOption p = true ∧ isHrefElement el = true) ∨
  (k = b!"target" ∧ p.addTargetBlankToFullyQualifiedLinks = true ∧ el = b!"a") ∨
  (k = b!"crossorigin" ∧ p.requireCrossOriginAnonymous = true ∧ isCrossOriginElement el = true) ∨
  (k = b!"sandbox" ∧ p.requireSandboxOnIFrame.isSome = true ∧ el = b!"iframe")

theorem AddedFor.addedKey {p : Policy} {el k : Bytes} (h : AddedFor p el k) : addedKey k := by
  rcases h with h | h | h | h
  · exact .inl h.1
  · exact .inr (.inl h.1)
  · exact .inr (.inr (.inl h.1))
  · exact .inr (.inr (.inr h.1))

theorem forceCrossOrigin_other_keys (p : Policy) (el : Bytes) (l : List Attr) (k : Bytes) (hk : k ≠ b!"crossorigin") :
    (p.forceCrossOrigin el l).filter (·.key == k) = l.filter (·.key == k) := by
  rw [forceCrossOrigin_eq]
  split
  · exact forceKey_filter hk _ _ l
  · rfl

theorem forceSandbox_other_keys (p : Policy) (el : Bytes) (clean : List Attr) (k : Bytes) (hk : k ≠ b!"sandbox") :
    ((p.forceSandbox el clean).filter (·.key == k)) = clean.filter (·.key == k) := by
  rw [forceSandbox_eq]
  split
  · split
    · exact forceKey_filter hk _ _ clean
    · rfl
  · rfl

theorem later_filter (p : Policy) (el : Bytes) (l : List Attr) {k : Bytes} (hc : k ≠ b!"crossorigin") (hs : k ≠ b!"sandbox") :
    (p.later el l).filter (·.key == k) = (p.hardenStage el l).filter (·.key == k) := by
  unfold Policy.later
  rw [forceSandbox_other_keys p el _ k hs, forceCrossOrigin_other_keys p el _ k hc]

theorem hardenStage_mem {p : Policy} {el : Bytes} {l : List Attr} {b : Attr} (h : b ∈ p.hardenStage el l) :
    b ∈ l ∨ (b.key = b!"rel" ∧ anyLinkOption p = true ∧ isHrefElement el = true) ∨
      (b.key = b!"target" ∧ p.addTargetBlankToFullyQualifiedLinks = true ∧ el = b!"a") := by
  unfold Policy.hardenStage at h
  split at h
  · rename_i hg
    simp only [Bool.and_eq_true] at hg
    exact (hardenLinks_mem h).imp_right (.imp_left fun hk => ⟨hk, hg.1.1, hg.2⟩)
  · exact .inl h

theorem forceCrossOrigin_mem {p : Policy} {el : Bytes} {l : List Attr} {b : Attr} (h : b ∈ p.forceCrossOrigin el l) :
    b ∈ l ∨ (b.key = b!"crossorigin" ∧ p.requireCrossOriginAnonymous = true ∧ isCrossOriginElement el = true) := by
  rw [forceCrossOrigin_eq] at h
  split at h
  · rename_i hg
    simp only [Bool.and_eq_true] at hg
    exact (forceKey_mem h).imp_right fun hk => ⟨hk, hg.1.1, hg.2⟩
  · exact .inl h

theorem forceSandbox_mem {p : Policy} {el : Bytes} {l : List Attr} {b : Attr} (h : b ∈ p.forceSandbox el l) :
    b ∈ l ∨ (b.key = b!"sandbox" ∧ p.requireSandboxOnIFrame.isSome = true ∧ el = b!"iframe") := by
  rw [forceSandbox_eq] at h
  split at h
  · rename_i ho
    split at h
    · exact (forceKey_mem h).imp_right fun hk => ⟨hk, by rw [ho]; rfl, beq_iff_eq.mp ‹_›⟩
    · exact .inl h
  · exact .inl h

theorem later_mem {p : Policy} {el : Bytes} {l : List Attr} {b : Attr} (h : b ∈ p.later el l) :
    b ∈ l ∨ AddedFor p el b.key := by
  rcases forceSandbox_mem h with h | h
  · rcases forceCrossOrigin_mem h with h | h
    · rcases hardenStage_mem h with h | h | h
      · exact .inl h
      · exact .inr (.inl h)
      · exact .inr (.inr (.inl h))
    · exact .inr (.inr (.inr (.inl h)))
  · exact .inr (.inr (.inr (.inr h)))

theorem sanitizeAttrs_mem {p : Policy} {el : Bytes} {attrs : List Attr} {aps : AttrRules} {out : List Attr}
    (h : p.sanitizeAttrs el attrs aps = some out) {b : Attr} (hb : b ∈ out) :
    (∃ a ∈ attrs.filterMap (p.filterAttr el aps (p.hasStylePolicies el)),
      b.key = a.key ∧ (b.val = a.val ∨ isUrlPosition el a.key = true)) ∨ AddedFor p el b.key := by
  rcases sanitizeAttrs_some h with rfl | ⟨m, hm, rfl⟩
  · cases hb
  · exact (later_mem hb).imp_left (urlStage_mem hm)

/-- a result with an href on a link element, by attribute names: some list `m` has its hrefs, and its attributes
    of every name but crossorigin and sandbox are those of the hardened `m` — of `m` itself when no link option is on -/
theorem sanitizeAttrs_link_view {p : Policy} {el : Bytes} {attrs : List Attr} {aps : AttrRules} {out : List Attr}
    (h : p.sanitizeAttrs el attrs aps = some out) (hel : isHrefElement el = true)
    (hhref : (out.filter (·.key == b!"href")).isEmpty = false) :
    ∃ m, out.filter (·.key == b!"href") = m.filter (·.key == b!"href") ∧
      ∀ k, k ≠ b!"crossorigin" → k ≠ b!"sandbox" →
        out.filter (·.key == k) = (if anyLinkOption p then p.hardenLinks el m else m).filter (·.key == k) := by
  rcases sanitizeAttrs_some h with rfl | ⟨m, _, rfl⟩
  · cases hhref
  · have hhr : (p.later el m).filter (·.key == b!"href") = m.filter (·.key == b!"href") :=
      (later_filter p el m (by decide) (by decide)).trans (hardenStage_filter (by decide) (by decide) m)
    have hne : m ≠ [] := by
      rintro rfl
      rw [hhr] at hhref
      cases hhref
    exact ⟨m, hhr, fun k hc hs => hardenStage_eq hel hne ▸ later_filter p el m hc hs⟩

theorem isHrefEl_eq (el : Bytes) : isHrefEl el = isHrefElement el := rfl
theorem isCoEl_eq (el : Bytes) : isCoEl el = isCrossOriginElement el := rfl

theorem sanitizeAttrs_keys (p : Policy) (el : Bytes) (attrs : List Attr) (aps : AttrRules) (out : List Attr)
    (h : p.sanitizeAttrs el attrs aps = some out) :
    ∀ b ∈ out, (∃ b0 ∈ attrs.filterMap (p.filterAttr el aps (p.hasStylePolicies el)), b0.key = b.key) ∨
      AddedFor p el b.key :=
  fun _ hb => (sanitizeAttrs_mem h hb).imp_left fun ⟨a, ha, hk, _⟩ => ⟨a, ha, hk.symm⟩

/-- a predicate on attributes that the later passes cannot break: it holds of every attribute with one of the four
    names they add or force (`added`).  `stable` says that `P` reads the name and the value only, which is all an
    attribute has (`PassInv.of_added`). -/
structure PassInv (P : Attr → Prop) : Prop where
  added : ∀ x, addedKey x.key → P x
  stable : ∀ a b, b.key = a.key → b.val = a.val → P a → P b

variable {P : Attr → Prop}

theorem PassInv.of_added (h : ∀ x, addedKey x.key → P x) : PassInv P :=
  ⟨h, by rintro ⟨_, _⟩ ⟨_, _⟩ rfl rfl ha; exact ha⟩

theorem PassInv.later (hP : PassInv P) {p : Policy} {el : Bytes} {l : List Attr} (h : ∀ b ∈ l, P b) :
    ∀ b ∈ p.later el l, P b :=
  fun b hb => (later_mem hb).elim (h b) fun ha => hP.added b ha.addedKey

/-- `P` holds of the result as soon as it holds of what the URL stage returns (`mid` is the output of the first
    pass; the two clauses are the URL stage off and on) -/
theorem sanitizeAttrs_after_urlPass (hP : PassInv P) (p : Policy) (el : Bytes) (attrs : List Attr) (aps : AttrRules)
    (out : List Attr) (h : p.sanitizeAttrs el attrs aps = some out)
    (hfirst : ∀ mid, mid = attrs.filterMap (p.filterAttr el aps (p.hasStylePolicies el)) →
      (¬ (linkable el = true ∧ p.requireParseableURLs = true) → ∀ b ∈ mid, P b) ∧
      (linkable el = true → p.requireParseableURLs = true →
        ∀ m2, mapMOpt (p.urlPassAttr el) mid = some m2 → ∀ b ∈ m2, P b)) :
    ∀ b ∈ out, P b := by
  rcases sanitizeAttrs_some h with rfl | ⟨m, hm, rfl⟩
  · nofun
  · obtain ⟨hno, hyes⟩ := hfirst _ rfl
    refine hP.later ?_
    rcases urlStage_some hm with ⟨hc, rfl⟩ | ⟨hl, hr, hm⟩
    · exact hno hc
    · exact hyes hl hr m hm

end BM
