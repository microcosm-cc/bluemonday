import BM.Proofs.Step
import BM.Proofs.LoopState
/-
  Whole-document reasoning about the token loop (C08, C09).  Four of the loop's five state variables (all but
  `mostRecentlyStartedToken`) are a function of the *open elements* of a well-nested input, each annotated with
  what the loop decided at its start tag (`Fate`).  `Abs` is that abstraction relation, `absState` the state it determines;
  `step_start_nonvoid` / `step_end` show that a start tag pushes a frame and the matching end tag undoes
  exactly what the start tag did, whatever happened in between; `step_sim` is one iteration on any token,
  `nest_run` the whole run.
-/
namespace BM
open Html Spec

theorem voidElements_eq (n : Bytes) : voidElements.contains n = isVoidElement n := by
  simp only [voidElements, isVoidElement, List.contains_cons, List.contains_nil, Bool.or_false, Bool.or_assoc]

inductive Fate where
  /-- script / style without AllowUnsafe: both tags vanish -/
  | hidden
  /-- disallowed element; `skip`: it is in the skip-content set (counted) -/
  | dis (skip : Bool)
  /-- allowed element dropped for lack of attributes: its name is on the stack -/
  | bare
  /-- allowed element that is kept; `marker`: a marker was pushed; `shown`: its tags are written -/
  | kept (marker shown : Bool)

/-- an open element with the decision taken at its start tag -/
structure Frame where
  name : Bytes
  fate : Fate

/-- `closingTagToSkipStack` as a function of the open elements (top first) -/
def ctsOf : List Frame → List Bytes
  | [] => []
  | f :: fs =>
    match f.fate with
    | .bare => f.name :: ctsOf fs
    | .kept true _ => (47 :: f.name) :: ctsOf fs
    | _ => ctsOf fs

/-- `skippingElementsCount` -/
def countOf : List Frame → Nat
  | [] => 0
  | f :: fs =>
    match f.fate with
    | .dis true => countOf fs + 1
    | _ => countOf fs

/-- the open elements of the output -/
def outStack : List Frame → List Bytes
  | [] => []
  | f :: fs =>
    match f.fate with
    | .kept _ true => f.name :: outStack fs
    | _ => outStack fs

/-- a frame the loop can push above `below`: a non-void name, a fate that agrees with the policy and with the stack
    and count of `below` -/
def FrameOK (p : Policy) (f : Frame) (below : List Frame) : Prop :=
  f.name.head? ≠ some 47 ∧ isVoidElement f.name = false ∧
  match f.fate with
  | .hidden => hiddenEl p f.name = true
  | .dis s => hiddenEl p f.name = false ∧ p.allowedEl f.name = false ∧
      s = p.setOfElementsToSkipContent.contains f.name
  | .bare => hiddenEl p f.name = false ∧ p.allowedEl f.name = true
  | .kept m sh => hiddenEl p f.name = false ∧ p.allowedEl f.name = true ∧
      m = (ctsOf below).contains f.name ∧ sh = (countOf below == 0)

inductive FramesOK (p : Policy) : List Frame → Prop where
  | nil : FramesOK p []
  | cons (f : Frame) (fs : List Frame) : FrameOK p f fs → FramesOK p fs → FramesOK p (f :: fs)

/-- `st` is the state determined by the open elements `fs` (`mostRecentlyStartedToken` left free) -/
structure Abs (p : Policy) (fs : List Frame) (st : LoopState) : Prop where
  ok : FramesOK p fs
  cts : st.closingTagToSkipStack = ctsOf fs
  flag : st.skipClosingTag = !(ctsOf fs).isEmpty
  count : st.skippingElementsCount = (countOf fs : Int)
  skip : st.skipElementContent = (countOf fs != 0)

theorem abs_init (p : Policy) : Abs p [] {} := ⟨.nil, rfl, rfl, rfl, rfl⟩

/-- what is on the stack: a plain entry is the name of an open element dropped for lack of attributes, which
    is allowed; a marker has its plain name further down -/
theorem mem_ctsOf {p : Policy} {fs : List Frame} (hok : FramesOK p fs) :
    (∀ x ∈ ctsOf fs, x.head? ≠ some 47 → p.allowedEl x = true) ∧ ∀ n, (47 :: n) ∈ ctsOf fs → n ∈ ctsOf fs := by
  induction hok with
  | nil => exact ⟨fun _ hx => (nomatch hx), fun _ hx => (nomatch hx)⟩
  | cons f fs hf _ ih =>
    obtain ⟨k, fate⟩ := f
    obtain ⟨hhead, _, hfate⟩ := hf
    obtain ⟨ih1, ih2⟩ := ih
    cases fate with
    | bare =>
      refine ⟨fun x hx hne => ?_, fun n hx => ?_⟩
      · rcases List.mem_cons.mp hx with rfl | hx
        · exact hfate.2
        · exact ih1 x hx hne
      · rcases List.mem_cons.mp hx with h | hx
        · rw [← h] at hhead; exact absurd rfl hhead
        · exact List.mem_cons_of_mem _ (ih2 n hx)
    | kept m sh =>
      cases m with
      | true =>
        refine ⟨fun x hx hne => ?_, fun n hx => ?_⟩
        · rcases List.mem_cons.mp hx with rfl | hx
          · exact absurd rfl hne
          · exact ih1 x hx hne
        · rcases List.mem_cons.mp hx with h | hx
          · -- the marker of `k` itself: `k` is on the stack below, which is why the marker was pushed
            obtain rfl : n = k := (List.cons.inj h).2
            exact List.mem_cons_of_mem _ (by simpa using hfate.2.2.1.symm)
          · exact List.mem_cons_of_mem _ (ih2 n hx)
      | false => exact ⟨ih1, ih2⟩
    | hidden => exact ⟨ih1, ih2⟩
    | dis s => exact ⟨ih1, ih2⟩

/-- the loop state that abstracts `fs`: every field but the most recently started element -/
def absState (fs : List Frame) (r : Bytes) : LoopState :=
  { skipElementContent := countOf fs != 0, skippingElementsCount := countOf fs,
    skipClosingTag := !(ctsOf fs).isEmpty, closingTagToSkipStack := ctsOf fs, mostRecentlyStartedToken := r }

theorem abs_recent {p : Policy} {fs : List Frame} {st : LoopState} (h : Abs p fs st) (x : Bytes) :
    Abs p fs { st with mostRecentlyStartedToken := x } := ⟨h.ok, h.cts, h.flag, h.count, h.skip⟩

theorem abs_absState {p : Policy} {fs : List Frame} (h : FramesOK p fs) (r : Bytes) : Abs p fs (absState fs r) :=
  ⟨h, rfl, rfl, rfl, rfl⟩

theorem abs_push {p : Policy} {fs : List Frame} (hfs : FramesOK p fs) {f : Frame} (hf : FrameOK p f fs) (r : Bytes) :
    Abs p (f :: fs) (absState (f :: fs) r) := abs_absState (.cons f fs hf hfs) r

theorem Abs.exists_eq {p : Policy} {fs : List Frame} {st : LoopState} (h : Abs p fs st) : ∃ r, st = absState fs r := by
  obtain ⟨sk, cnt, fl, cts, r⟩ := st
  obtain ⟨_, hc, hf, hn, hs⟩ := h
  simp only at hc hf hn hs
  subst hc hf hn hs
  exact ⟨r, rfl⟩

theorem clearRecent_absState (fs : List Frame) (r el : Bytes) : ∃ r', clearRecent (absState fs r) el = absState fs r' := by
  unfold clearRecent; split
  · exact ⟨[], rfl⟩
  · exact ⟨r, rfl⟩

theorem enterSkip_absState (p : Policy) (fs : List Frame) (r : Bytes) {n : Bytes} (hv : isVoidElement n = false) :
    p.enterSkip (absState fs r) n = absState (⟨n, .dis (p.setOfElementsToSkipContent.contains n)⟩ :: fs) r := by
  unfold Policy.enterSkip
  cases p.setOfElementsToSkipContent.contains n with
  | false => rfl
  | true => simp [hv, absState, countOf, ctsOf]

theorem pushDropped_absState (fs : List Frame) (r : Bytes) {n : Bytes} (hv : isVoidElement n = false) :
    pushDropped (absState fs r) n = absState (⟨n, .bare⟩ :: fs) r := by
  simp [pushDropped, hv, absState, ctsOf, countOf]

theorem contains_ne_nil {l : List Bytes} {n : Bytes} (h : l.contains n = true) : l.isEmpty = false := by
  cases l with
  | nil => simp at h
  | cons _ _ => rfl

theorem markKept_absState (fs : List Frame) (r : Bytes) {n : Bytes} (hv : isVoidElement n = false) (sh : Bool) :
    markKept (absState fs r) n = absState (⟨n, .kept ((ctsOf fs).contains n) sh⟩ :: fs) r := by
  unfold markKept
  cases hc : (ctsOf fs).contains n with
  | false => simp [absState, ctsOf, countOf, show n ∉ ctsOf fs by simpa using hc]
  | true => simp [absState, contains_ne_nil hc, hv, ctsOf, countOf, show n ∈ ctsOf fs by simpa using hc]

theorem popDropped_absState (n : Bytes) (fs : List Frame) (r : Bytes) :
    popDropped (absState (⟨n, .bare⟩ :: fs) r) = absState fs r := by
  cases h : (ctsOf fs).isEmpty <;> simp [popDropped, absState, ctsOf, countOf, h]

theorem popMarker_absState (fs : List Frame) (r : Bytes) {n : Bytes} (sh : Bool) (hm : (ctsOf fs).contains n = true) :
    popMarker (absState (⟨n, .kept true sh⟩ :: fs) r) n = absState fs r := by
  simp [popMarker, absState, ctsOf, countOf, contains_ne_nil hm]

theorem leaveSkip_absState (p : Policy) (fs : List Frame) (r : Bytes) {n : Bytes} (ha : p.allowedEl n = false) :
    p.leaveSkip (absState (⟨n, .dis (p.setOfElementsToSkipContent.contains n)⟩ :: fs) r) n = absState fs r := by
  obtain ⟨hex, hpat⟩ := Bool.or_eq_false_iff.mp ha
  unfold Policy.leaveSkip
  cases p.setOfElementsToSkipContent.contains n with
  | false => simp [hex, hpat]; rfl
  | true =>
    simp [hex, hpat, absState, countOf, ctsOf]
    cases countOf fs <;> simp

theorem emit_absState (fs : List Frame) (r : Bytes) (t : Token) :
    emitUnlessSkipping (absState fs r) t = if countOf fs == 0 then [⟨t.render⟩] else [] := by
  cases h : countOf fs == 0 <;> simp [emitUnlessSkipping, absState, bne, h]

theorem step_start_nonvoid (p : Policy) {fs : List Frame} {st : LoopState} (h : Abs p fs st) (t : Token)
    (htt : t.tt = .start) (hv : isVoidElement t.data = false) (hn : t.data.head? ≠ some 47) :
    ∃ st' f ws toks, p.step st t = some (st', ws) ∧ f.name = t.data ∧ Abs p (f :: fs) st' ∧ TokWrites p t ws toks ∧
      ((NonTag toks ∧ outStack (f :: fs) = outStack fs) ∨
       (∃ k, toks = [k] ∧ k.tt = .start ∧ k.data = t.data ∧ outStack (f :: fs) = t.data :: outStack fs)) := by
  obtain ⟨r0, rfl⟩ := h.exists_eq
  have hfs := h.ok
  obtain ⟨sp, hsp, hnt⟩ := tokWrites_space p t
  have hrec : ({ absState fs r0 with mostRecentlyStartedToken := t.data } : LoopState) = absState fs t.data := rfl
  rw [step_of_start htt]
  rcases open_cases p t with hh | ⟨hh, hr⟩ | ⟨aps, attrs, hh, hr, hc⟩
  · rw [stepStart_hidden hh, hrec]
    exact ⟨_, ⟨t.data, .hidden⟩, [], [], rfl, rfl, abs_push hfs (f := ⟨t.data, .hidden⟩) ⟨hn, hv, hh⟩ _, tokWrites_nil p t,
      .inl ⟨nonTag_nil, rfl⟩⟩
  · have ha : p.allowedEl t.data = false := by rw [← allowsElement_eq, ← attrRulesFor_isSome, hr]; rfl
    rw [stepStart_dis hh hr, hrec, enterSkip_absState p fs _ hv]
    exact ⟨_, ⟨t.data, .dis _⟩, _, sp, rfl, rfl, abs_push hfs (f := ⟨t.data, .dis _⟩) ⟨hn, hv, hh, ha, rfl⟩ _, hsp,
      .inl ⟨hnt, rfl⟩⟩
  have ha : p.allowedEl t.data = true := by rw [← allowsElement_eq, ← attrRulesFor_isSome, hr]; rfl
  cases hb : attrs.isEmpty && !p.allowNoAttrs t.data with
  | true =>
    rw [stepStart_bare hh hr hc hb, hrec, pushDropped_absState fs _ hv]
    exact ⟨_, ⟨t.data, .bare⟩, _, sp, rfl, rfl, abs_push hfs (f := ⟨t.data, .bare⟩) ⟨hn, hv, hh, ha⟩ _, hsp,
      .inl ⟨hnt, rfl⟩⟩
  | false =>
    have hprov : Prov p t { t with attrs := attrs } := .inr (.inr ⟨aps, attrs, hr, hc, rfl, .inl htt⟩)
    rw [stepStart_kept hh hr hc hb, hrec]
    simp only
    rw [markKept_absState fs _ hv (countOf fs == 0), emit_absState,
      show countOf (⟨t.data, .kept ((ctsOf fs).contains t.data) (countOf fs == 0)⟩ :: fs) = countOf fs from rfl]
    cases hz : countOf fs == 0 with
    | true =>
      exact ⟨_, ⟨t.data, .kept _ true⟩, _, _, rfl, rfl,
        abs_push hfs (f := ⟨t.data, .kept _ true⟩) ⟨hn, hv, hh, ha, rfl, hz.symm⟩ _,
        tokWrites_one p t _ hprov, .inr ⟨_, rfl, htt, rfl, rfl⟩⟩
    | false =>
      exact ⟨_, ⟨t.data, .kept _ false⟩, _, _, rfl, rfl,
        abs_push hfs (f := ⟨t.data, .kept _ false⟩) ⟨hn, hv, hh, ha, rfl, hz.symm⟩ _,
        tokWrites_nil p t, .inl ⟨nonTag_nil, rfl⟩⟩

/-! ### tokens that open and close nothing -/

/-- tokens that the nesting check passes over (`wn_flat_append`) -/
def Flat (toks : List Token) : Prop := ∀ k ∈ toks, k.tt ≠ .end_ ∧ (k.tt = .start → isVoidElement k.data = true)

theorem nonTag_flat {toks : List Token} (h : NonTag toks) : Flat toks :=
  fun k hk => ⟨(h k hk).2, fun hs => absurd hs (h k hk).1⟩

theorem wn_flat_append : ∀ (a b : List Token) (S : List Bytes), Flat a →
    wellNestedAux S (a ++ b) = wellNestedAux S b
  | [], b, S, _ => rfl
  | k :: a, b, S, h => by
    have hk := h k (by simp)
    have ih := wn_flat_append a b S (fun x hx => h x (by simp [hx]))
    simp only [List.cons_append, wellNestedAux]
    cases htt : k.tt with
    | start => simp only; rw [voidElements_eq, hk.2 htt]; simpa using ih
    | end_ => exact absurd htt hk.1
    | text => simpa using ih
    | selfClosing => simpa using ih
    | comment => simpa using ih
    | doctype => simpa using ih

theorem flat_one {t : Token} (he : t.tt ≠ .end_) (hv : t.tt = .start → isVoidElement t.data = true) : Flat [t] := by
  intro k hk
  rw [List.mem_singleton.mp hk]
  exact ⟨he, hv⟩

theorem token_kind (t : Token) : Flat [t] ∨ (t.tt = .start ∧ isVoidElement t.data = false) ∨ t.tt = .end_ := by
  cases htt : t.tt with
  | start =>
    cases hv : isVoidElement t.data with
    | true => exact .inl (flat_one (by simp [htt]) fun _ => hv)
    | false => exact .inr (.inl ⟨rfl, rfl⟩)
  | end_ => exact .inr (.inr rfl)
  | _ => exact .inl (flat_one (by simp [htt]) (by simp [htt]))

theorem prov_flat {p : Policy} {t k : Token} (h : Prov p t k) (hf : Flat [t]) : Flat [k] := by
  rcases h with ⟨rfl, _⟩ | ⟨rfl, _⟩ | ⟨_, _, _, _, rfl, _⟩
  · exact flat_one (by decide) (fun h => by cases h)
  · exact hf
  · exact flat_one (hf t (by simp)).1 (hf t (by simp)).2

theorem step_flat (p : Policy) (hu : p.allowUnsafe = false) {fs : List Frame} {st : LoopState} (h : Abs p fs st)
    {t : Token} (hf : Flat [t]) :
    ∃ st' ws toks, p.step st t = some (st', ws) ∧ Abs p fs st' ∧ TokWrites p t ws toks ∧ Flat toks := by
  have hstate : ∃ st' ws, p.step st t = some (st', ws) ∧ Abs p fs st' := by
    obtain ⟨ws, hws⟩ := stepSelfClosing_state p st t
    cases htt : t.tt with
    | start => exact ⟨_, ws, by rw [step_of_start htt, stepStart_void p st ((hf t (by simp)).2 htt), hws], abs_recent h _⟩
    | selfClosing => exact ⟨_, ws, by rw [step_of_selfClosing htt, hws], abs_recent h _⟩
    | end_ => exact absurd htt (hf t (by simp)).1
    | text => exact ⟨st, _, step_of_text htt p st, h⟩
    | comment => exact ⟨st, _, step_of_comment htt p st, h⟩
    | doctype => exact ⟨st, _, step_of_doctype htt p st, h⟩
  obtain ⟨st', ws, hstep, habs⟩ := hstate
  obtain ⟨toks, htw, _⟩ := emit_prov hu (step_emit p st t st' ws hstep)
  exact ⟨st', ws, toks, hstep, habs, htw, fun k hk => prov_flat (htw.2 k hk) hf k (by simp)⟩

/-- an end tag whose element is not on the stack: neither is its marker, so nothing is popped -/
theorem stepEnd_absent {p : Policy} {fs : List Frame} (hfs : FramesOK p fs) {st c : LoopState} {t : Token}
    (hc : clearRecent st t.data = c) (hh : hiddenEl p t.data = false)
    (hflag : c.skipClosingTag = !c.closingTagToSkipStack.isEmpty) (hcts : c.closingTagToSkipStack = ctsOf fs)
    (hnotin : t.data ∉ ctsOf fs) :
    p.stepEnd st t =
      let st2 := p.leaveSkip c t.data
      some (st2, if p.allowedEl t.data then emitUnlessSkipping st2 t else p.space) := by
  rw [stepEnd_other hc hh hflag fun h => hnotin (hcts ▸ List.mem_of_mem_head? h),
    popMarker_of_head_ne fun h => hnotin ((mem_ctsOf hfs).2 _ (hcts ▸ List.mem_of_mem_head? h))]

theorem step_end (p : Policy) {f : Frame} {fs : List Frame} {st : LoopState} (h : Abs p (f :: fs) st) (t : Token)
    (htt : t.tt = .end_) (hname : f.name = t.data) :
    ∃ st' ws toks, p.step st t = some (st', ws) ∧ Abs p fs st' ∧ TokWrites p t ws toks ∧
      ((NonTag toks ∧ outStack (f :: fs) = outStack fs) ∨
       (∃ k, toks = [k] ∧ k.tt = .end_ ∧ k.data = t.data ∧ outStack (f :: fs) = t.data :: outStack fs)) := by
  obtain ⟨n, fate⟩ := f
  obtain rfl : n = t.data := hname
  obtain ⟨hn, hv, hfate⟩ : FrameOK p ⟨t.data, fate⟩ fs := by cases h.ok with | cons _ _ hf _ => exact hf
  have hfs : FramesOK p fs := by cases h.ok with | cons _ _ _ hfs => exact hfs
  simp only at hn hv hfate
  obtain ⟨r0, rfl⟩ := h.exists_eq
  obtain ⟨r, hr⟩ := clearRecent_absState (⟨t.data, fate⟩ :: fs) r0 t.data
  have habs := abs_absState hfs r
  obtain ⟨sp, hsp, hnt⟩ := tokWrites_space p t
  rw [step_of_end htt]
  cases fate with
  | hidden =>
    simp only at hfate
    rw [stepEnd_hidden hr hfate]
    exact ⟨_, _, [], rfl, habs, tokWrites_nil p t, .inl ⟨nonTag_nil, rfl⟩⟩
  | bare =>
    simp only at hfate
    rw [stepEnd_dropped hr hfate.1 rfl rfl, popDropped_absState]
    exact ⟨_, _, sp, rfl, habs, hsp, .inl ⟨hnt, rfl⟩⟩
  | dis s =>
    simp only at hfate
    obtain ⟨hh, ha, rfl⟩ := hfate
    have hnotin : t.data ∉ ctsOf fs := fun hmem => by
      have := (mem_ctsOf hfs).1 _ hmem hn
      rw [ha] at this; cases this
    rw [stepEnd_absent hfs hr hh rfl rfl hnotin, leaveSkip_absState p fs r ha, ha]
    exact ⟨_, _, sp, rfl, habs, hsp, .inl ⟨hnt, rfl⟩⟩
  | kept m sh =>
    simp only at hfate
    obtain ⟨hh, ha, hm, rfl⟩ := hfate
    have hleave : ∀ s, p.leaveSkip s t.data = s := fun s => leaveSkip_of_allowed p s _ ha
    -- the state after the step is `absState fs r`, with or without a marker to pop
    have hstep : p.stepEnd (absState (⟨t.data, .kept m (countOf fs == 0)⟩ :: fs) r0) t =
        some (absState fs r, if countOf fs == 0 then [⟨t.render⟩] else []) := by
      cases m with
      | true =>
        rw [stepEnd_other hr hh rfl (by simp [absState, ctsOf])]
        simp only [popMarker_absState fs r _ hm.symm, hleave, ha, ↓reduceIte, emit_absState]
      | false =>
        rw [stepEnd_absent hfs hr hh rfl rfl (by simpa using hm.symm), hleave, ha]
        exact congrArg some (congrArg (Prod.mk _) (emit_absState fs r t))
    rw [hstep]
    cases countOf fs == 0 with
    | true =>
      exact ⟨_, _, [t], rfl, habs, tokWrites_one p t t (.inr (.inl ⟨rfl, .inr (.inl htt)⟩)),
        .inr ⟨t, rfl, htt, rfl, rfl⟩⟩
    | false => exact ⟨_, _, [], rfl, habs, tokWrites_nil p t, .inl ⟨nonTag_nil, rfl⟩⟩

theorem run_cons_some (p : Policy) (st st' : LoopState) (t : Token) (ts : List Token) (ws ws' : List Write)
    (h1 : p.step st t = some (st', ws)) (h2 : p.run st' ts = (ws', false)) :
    p.run st (t :: ts) = (ws ++ ws', false) := by
  simp [Policy.run, h1, h2]

/-- what a token does to the open elements -/
inductive Moves (t : Token) : List Frame → List Frame → Prop where
  | push (f : Frame) (fs : List Frame) : t.tt = .start → isVoidElement t.data = false → f.name = t.data →
      Moves t fs (f :: fs)
  | pop (f : Frame) (fs : List Frame) : t.tt = .end_ → f.name = t.data → Moves t (f :: fs) fs
  | stay (fs : List Frame) : Flat [t] → Moves t fs fs

theorem step_sim (p : Policy) (hu : p.allowUnsafe = false) {fs : List Frame} {st : LoopState} (h : Abs p fs st)
    {t : Token} (hn : Props.NameOK t) {ts : List Token} (hwn : wellNestedAux (fs.map (·.name)) (t :: ts) = true) :
    ∃ st' fs' ws toks, p.step st t = some (st', ws) ∧ Abs p fs' st' ∧ TokWrites p t ws toks ∧ Moves t fs fs' ∧
      wellNestedAux (fs'.map (·.name)) ts = true ∧
      (∀ rest, wellNestedAux (outStack fs) (toks ++ rest) = wellNestedAux (outStack fs') rest) ∧
      (t.tt = .text →
        toks = if countOf fs == 0 && !isScriptOrStyle st.mostRecentlyStartedToken then [t] else []) := by
  rcases token_kind t with hf | ⟨htt, hv⟩ | htt
  · have hwn' : wellNestedAux (fs.map (·.name)) ts = true := by rw [← wn_flat_append [t] ts _ hf]; exact hwn
    by_cases htt : t.tt = .text
    · refine ⟨st, fs, _, _, step_of_text htt p st, h, ?_, .stay fs hf, hwn', ?_, fun _ => rfl⟩
      · have hw : p.stepText st t =
            if countOf fs == 0 && !isScriptOrStyle st.mostRecentlyStartedToken then [⟨t.render⟩] else [] := by
          unfold Policy.stepText
          rw [h.skip, hu, bne]
          cases countOf fs == 0 <;> cases isScriptOrStyle st.mostRecentlyStartedToken <;> rfl
        rw [hw]
        split
        · exact tokWrites_one p t t (.inr (.inl ⟨rfl, .inl htt⟩))
        · exact tokWrites_nil p t
      · intro rest
        split
        · exact wn_flat_append [t] rest _ hf
        · rfl
    · obtain ⟨st', ws, toks, hs, ha, htw, hft⟩ := step_flat p hu h hf
      exact ⟨st', fs, ws, toks, hs, ha, htw, .stay fs hf, hwn', fun rest => wn_flat_append toks rest _ hft,
        fun h => absurd h htt⟩
  · simp only [wellNestedAux, htt, voidElements_eq, hv, Bool.false_eq_true, ↓reduceIte] at hwn
    obtain ⟨st', f, ws, toks, hs, hfn, ha, htw, hcase⟩ := step_start_nonvoid p h t htt hv (hn htt)
    refine ⟨st', f :: fs, ws, toks, hs, ha, htw, .push f fs htt hv hfn, by simpa [hfn] using hwn, ?_,
      fun h => by rw [htt] at h; cases h⟩
    intro rest
    rcases hcase with ⟨hnt, hsame⟩ | ⟨k, rfl, hk1, hk2, hpush⟩
    · rw [wn_flat_append _ _ _ (nonTag_flat hnt), hsame]
    · rw [hpush]
      simp only [List.cons_append, List.nil_append, wellNestedAux, hk1, hk2, voidElements_eq, hv]
      rfl
  · simp only [wellNestedAux, htt] at hwn
    cases fs with
    | nil => simp at hwn
    | cons f fs' =>
      simp only [List.map_cons, Bool.and_eq_true, beq_iff_eq] at hwn
      obtain ⟨st', ws, toks, hs, ha, htw, hcase⟩ := step_end p h t htt hwn.1
      refine ⟨st', fs', ws, toks, hs, ha, htw, .pop f fs' htt hwn.1, hwn.2, ?_, fun h => by rw [htt] at h; cases h⟩
      intro rest
      rcases hcase with ⟨hnt, hsame⟩ | ⟨k, rfl, hk1, hk2, hpop⟩
      · rw [wn_flat_append _ _ _ (nonTag_flat hnt), hsame]
      · rw [hpop]; simp [wellNestedAux, hk1, hk2]

theorem nest_run (p : Policy) (hu : p.allowUnsafe = false) : ∀ (ts : List Token) (fs : List Frame) (st : LoopState),
    Abs p fs st → (∀ t ∈ ts, Props.NameOK t) → wellNestedAux (fs.map (·.name)) ts = true →
    ∃ ws toks, p.run st ts = (ws, false) ∧ RunWrites p ts ws toks ∧ wellNestedAux (outStack fs) toks = true := by
  intro ts
  induction ts with
  | nil =>
    intro fs st _ _ hwn
    simp only [wellNestedAux, List.isEmpty_iff, List.map_eq_nil_iff] at hwn
    subst hwn
    exact ⟨[], [], rfl, runWrites_nil p, rfl⟩
  | cons t ts ih =>
    intro fs st habs hname hwn
    obtain ⟨st', fs', ws1, toks1, hs, habs', htw1, _, hwn', hout1, _⟩ := step_sim p hu habs (hname t (by simp)) hwn
    obtain ⟨ws2, toks2, hr, htw2, hout⟩ := ih fs' st' habs' (fun x hx => hname x (by simp [hx])) hwn'
    exact ⟨ws1 ++ ws2, toks1 ++ toks2, run_cons_some p st st' t ts ws1 ws2 hs hr, runWrites_cons htw1 htw2,
      by rw [hout1]; exact hout⟩

end BM
