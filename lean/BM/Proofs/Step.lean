import BM.Proofs.LoopState
/-
  One characterisation of what a single loop iteration can write (`Emit`), read off the outcomes
  of an iteration (`step_tag`, Proofs/LoopState); the property theorems reason from it.  The same
  writes as tokens: `TokWrites` / `RunWrites` say that the bytes written are the serialisation of a
  token list, `Prov` where each of those tokens comes from; `emit_prov` is the case analysis of
  `Emit` behind them.
-/
namespace BM
open Html Spec

/-- the possible write lists of one loop iteration -/
inductive Emit (p : Policy) (st : LoopState) (t : Token) : List Write → Prop where
  | nothing : Emit p st t []
  | space : p.addSpaces = true → Emit p st t [⟨[32]⟩]
  | comment : t.tt = .comment → p.allowComments = true → Emit p st t [⟨t.render⟩]
  | openTag (aps : AttrRules) (attrs : List Attr) :
      (t.tt = .start ∨ t.tt = .selfClosing) →
      p.attrRulesFor t.data = some aps →
      (isScriptOrStyle t.data && !p.allowUnsafe) = false →
      p.cleanAttrs t aps = some attrs →
      (attrs.isEmpty && !p.allowNoAttrs t.data) = false →
      st.skipElementContent = false →
      Emit p st t [⟨({ t with attrs := attrs } : Token).render⟩]
  | closeTag :
      t.tt = .end_ →
      (isScriptOrStyle t.data && !p.allowUnsafe) = false →
      (p.elsAndAttrs.contains t.data || p.elsMatchingAndAttrs.any fun (r, _) => r.test t.data) = true →
      Emit p st t [⟨t.render⟩]
  | text :
      t.tt = .text → st.skipElementContent = false →
      isScriptOrStyle st.mostRecentlyStartedToken = false → Emit p st t [⟨t.render⟩]
  | rawText :
      t.tt = .text → p.allowUnsafe = true → st.skipElementContent = false → Emit p st t [⟨t.data⟩]

theorem space_emit (p : Policy) (st : LoopState) (t : Token) : Emit p st t p.space := by
  unfold Policy.space
  split
  · exact .space (by assumption)
  · exact .nothing

theorem stepText_emit (p : Policy) (st : LoopState) (t : Token) (htt : t.tt = .text) :
    Emit p st t (p.stepText st t) := by
  unfold Policy.stepText
  split
  · exact .nothing
  · rename_i hskip
    split
    · split
      · exact .rawText htt (by assumption) (by simpa using hskip)
      · exact .nothing
    · rename_i hrecent
      exact .text htt (by simpa using hskip) (by simpa using hrecent)

theorem step_emit (p : Policy) (st : LoopState) (t : Token) (st' : LoopState) (ws : List Write)
    (h : p.step st t = some (st', ws)) : Emit p st t ws := by
  by_cases htag : Spec.isTag t = true
  · rcases (step_tag h htag).2 with ⟨_, rfl⟩ | ⟨hh, rfl | ⟨aps, attrs, htt, haps, hattrs, hbare, hsk, rfl⟩ | ⟨htt, hall, rfl⟩⟩
    · exact .nothing
    · exact space_emit p st t
    · unfold emitUnlessSkipping
      split
      · exact .nothing
      · exact .openTag aps attrs htt haps hh hattrs hbare (by rw [← hsk]; exact (Bool.not_eq_true _).mp ‹_›)
    · unfold emitUnlessSkipping
      split
      · exact .nothing
      · exact .closeTag htt hh ((allowsElement_eq p t.data).trans hall)
  · cases htt : t.tt with
    | text => rw [step_of_text htt] at h; cases h; exact stepText_emit p st t htt
    | comment =>
      rw [step_of_comment htt] at h; cases h
      split
      · exact .comment htt ‹_›
      · exact .nothing
    | doctype => rw [step_of_doctype htt] at h; cases h; exact .nothing
    | start => exact absurd ((isTag_iff t).mpr (.inl htt)) htag
    | end_ => exact absurd ((isTag_iff t).mpr (.inr (.inl htt))) htag
    | selfClosing => exact absurd ((isTag_iff t).mpr (.inr (.inr htt))) htag

/-- what holds of the writes of every iteration holds of the writes of the run -/
theorem run_writes_of_emit {p : Policy} (P : Bytes → Prop)
    (hP : ∀ {st t ws}, Emit p st t ws → ∀ w ∈ ws, P w.data) (ts : List Token) :
    ∀ st, ∀ w ∈ (p.run st ts).1, P w.data := by
  induction ts with
  | nil => intro st w hw; simp [Policy.run] at hw
  | cons t ts ih =>
    intro st w hw
    unfold Policy.run at hw
    split at hw
    · simp at hw
    · rename_i st' ws hs
      rcases List.mem_append.mp hw with hw | hw
      · exact hP (step_emit p st t st' ws hs) w hw
      · exact ih st' w hw

/-- The induction over `Policy.run` for facts about the bytes written.  (`R t k := Q k` gives a predicate on
    the written tokens alone.) -/
theorem run_lift {p : Policy} {R : Token → Token → Prop} (ts : List Token)
    (h : ∀ t ∈ ts, ∀ st ws, Emit p st t ws →
      ∃ toks : List Token, ws.map (·.data) = toks.map Token.render ∧ ∀ k ∈ toks, R t k) :
    ∀ st, ∃ toks : List Token, (p.run st ts).1.map (·.data) = toks.map Token.render ∧
      ∀ k ∈ toks, ∃ t ∈ ts, R t k := by
  induction ts with
  | nil => exact fun _ => ⟨[], rfl, nofun⟩
  | cons t ts ih =>
    intro st
    unfold Policy.run
    split
    · exact ⟨[], rfl, nofun⟩
    · rename_i st' ws hs
      obtain ⟨k1, hk1, hf1⟩ := h t (by simp) st ws (step_emit p st t st' ws hs)
      obtain ⟨k2, hk2, hf2⟩ := ih (fun x hx => h x (by simp [hx])) st'
      refine ⟨k1 ++ k2, by simp [hk1, hk2], fun k hk => ?_⟩
      rcases List.mem_append.mp hk with hk | hk
      · exact ⟨t, by simp, hf1 k hk⟩
      · obtain ⟨t', ht', hft⟩ := hf2 k hk
        exact ⟨t', by simp [ht'], hft⟩

/-- The induction over `Policy.run` for facts that need the loop state: an invariant `I` that every iteration
    re-establishes (and under which it returns), a relation `W` between a token and the writes of its
    iteration, and a relation `R` between token lists and write lists that `W` builds up. -/
theorem run_steps {p : Policy} (I : LoopState → Prop) (W : Token → List Write → Prop)
    (R : List Token → List Write → Prop) (hnil : R [] [])
    (hcons : ∀ {t ts ws rest}, W t ws → R ts rest → R (t :: ts) (ws ++ rest)) (ts : List Token)
    (hstep : ∀ t ∈ ts, ∀ st, I st → ∃ st' ws, p.step st t = some (st', ws) ∧ I st' ∧ W t ws) :
    ∀ st, I st → ∃ ws, p.run st ts = (ws, false) ∧ R ts ws := by
  induction ts with
  | nil => exact fun _ _ => ⟨[], rfl, hnil⟩
  | cons t ts ih =>
    intro st hi
    obtain ⟨st', ws, hs, hi', hw⟩ := hstep t (by simp) st hi
    obtain ⟨rest, hr, hf⟩ := ih (fun x hx => hstep x (by simp [hx])) st' hi'
    exact ⟨ws ++ rest, by simp [Policy.run, hs, hr], hcons hw hf⟩

/-! ### the writes as tokens -/

/-- the writes are, write by write, the serialisations of `toks` -/
def TokBytes (ws : List Write) (toks : List Token) : Prop := ws.map (·.data) = toks.map Token.render

/-- no start tag and no end tag among `toks` (a self-closing tag is not excluded) -/
def NonTag (toks : List Token) : Prop := ∀ k ∈ toks, k.tt ≠ .start ∧ k.tt ≠ .end_

theorem nonTag_nil : NonTag [] := fun _ hk => by cases hk

/-- where a token `k` written on input token `t` comes from -/
def Prov (p : Policy) (t k : Token) : Prop :=
  (k = ⟨.text, [32], []⟩ ∧ p.addSpaces = true) ∨
  (k = t ∧ (t.tt = .text ∨ t.tt = .end_ ∨ (t.tt = .comment ∧ p.allowComments = true))) ∨
  (∃ aps attrs, p.attrRulesFor t.data = some aps ∧ p.cleanAttrs t aps = some attrs ∧
    k = { t with attrs := attrs } ∧ (t.tt = .start ∨ t.tt = .selfClosing))

def TokWrites (p : Policy) (t : Token) (ws : List Write) (toks : List Token) : Prop :=
  TokBytes ws toks ∧ ∀ k ∈ toks, Prov p t k

theorem tokWrites_nil (p : Policy) (t : Token) : TokWrites p t [] [] := ⟨rfl, fun _ hk => by cases hk⟩

theorem tokWrites_one (p : Policy) (t k : Token) (h : Prov p t k) : TokWrites p t [⟨k.render⟩] [k] :=
  ⟨by unfold TokBytes; simp, by intro x hx; simp at hx; subst hx; exact h⟩

theorem tokWrites_space (p : Policy) (t : Token) :
    ∃ toks, TokWrites p t p.space toks ∧ NonTag toks := by
  unfold Policy.space
  split
  · refine ⟨_, tokWrites_one p t ⟨.text, [32], []⟩ (.inl ⟨rfl, ‹_›⟩), fun k hk => ?_⟩
    rw [List.mem_singleton.mp hk]
    exact ⟨by decide, by decide⟩
  · exact ⟨[], tokWrites_nil p t, nonTag_nil⟩

def RunWrites (p : Policy) (ts : List Token) (ws : List Write) (toks : List Token) : Prop :=
  TokBytes ws toks ∧ ∀ k ∈ toks, ∃ t ∈ ts, Prov p t k

theorem runWrites_nil (p : Policy) : RunWrites p [] [] [] := ⟨rfl, fun _ hk => by cases hk⟩

theorem runWrites_cons {p : Policy} {t : Token} {ts : List Token} {w1 w2 : List Write} {t1 t2 : List Token}
    (h1 : TokWrites p t w1 t1) (h2 : RunWrites p ts w2 t2) : RunWrites p (t :: ts) (w1 ++ w2) (t1 ++ t2) := by
  refine ⟨by have a := h1.1; have b := h2.1; unfold TokBytes at *; simp [a, b], ?_⟩
  intro k hk
  simp only [List.mem_append] at hk
  rcases hk with h | h
  · exact ⟨t, by simp, h1.2 k h⟩
  · obtain ⟨t', ht', hp⟩ := h2.2 k h
    exact ⟨t', by simp [ht'], hp⟩

/-- the case analysis of `Emit` behind `TokWrites`: the written tokens, where each comes from, and that a written tag
    is a tag of an allowed element other than script/style -/
theorem emit_prov {p : Policy} (hu : p.allowUnsafe = false) {st : LoopState} {t : Token} {ws : List Write}
    (he : Emit p st t ws) :
    ∃ toks, TokWrites p t ws toks ∧
      ∀ k ∈ toks, isTag k = true → allowsElement p k.data = true ∧ isScriptOrStyle k.data = false := by
  have one : ∀ k : Token, Prov p t k →
      (isTag k = true → allowsElement p k.data = true ∧ isScriptOrStyle k.data = false) →
      ∃ toks, TokWrites p t [⟨k.render⟩] toks ∧
        ∀ k ∈ toks, isTag k = true → allowsElement p k.data = true ∧ isScriptOrStyle k.data = false :=
    fun k hk hx => ⟨[k], tokWrites_one p t k hk, fun x hx' => by rw [List.mem_singleton.mp hx']; exact hx⟩
  cases he with
  | nothing => exact ⟨[], tokWrites_nil p t, nofun⟩
  | space hsp => exact one ⟨.text, [32], []⟩ (.inl ⟨rfl, hsp⟩) (fun h => by rw [isTag_iff] at h; simp at h)
  | comment htt hc =>
    exact one t (.inr (.inl ⟨rfl, .inr (.inr ⟨htt, hc⟩)⟩)) (fun h => by rw [isTag_iff, htt] at h; simp at h)
  | openTag aps attrs htt haps hss hattrs _ _ =>
    exact one { t with attrs := attrs } (.inr (.inr ⟨aps, attrs, haps, hattrs, rfl, htt⟩))
      fun _ => ⟨attrRulesFor_allows' haps, by simpa [hu] using hss⟩
  | closeTag htt hss hall => exact one t (.inr (.inl ⟨rfl, .inr (.inl htt)⟩)) fun _ => ⟨hall, by simpa [hu] using hss⟩
  | text htt _ _ =>
    exact one t (.inr (.inl ⟨rfl, .inl htt⟩)) (fun h => by rw [isTag_iff, htt] at h; simp at h)
  | rawText _ hun _ => rw [hu] at hun; cases hun

/-- What one write can be when AllowUnsafe is off: the escaping of a text, a space, a comment (comments
    being allowed), or the serialisation of a tag whose element is allowed and is neither script nor
    style. -/
theorem emit_write {p : Policy} (hu : p.allowUnsafe = false) {st : LoopState} {t : Token} {ws : List Write}
    (he : Emit p st t ws) : ∀ w ∈ ws,
      (∃ d, w.data = escape d) ∨ w.data = [32] ∨
      (∃ d, w.data = Token.render ⟨.comment, d, []⟩ ∧ p.allowComments = true) ∨
      ∃ k : Token, w.data = k.render ∧ isTag k = true ∧ allowsElement p k.data = true ∧
        isScriptOrStyle k.data = false := by
  obtain ⟨toks, ⟨hb, hp⟩, hx⟩ := emit_prov hu he
  intro w hw
  have hmem : w.data ∈ toks.map Token.render := by
    unfold TokBytes at hb; rw [← hb]; exact List.mem_map_of_mem hw
  obtain ⟨k, hk, hwk⟩ := List.mem_map.mp hmem
  rw [← hwk]
  rcases hp k hk with ⟨rfl, _⟩ | ⟨rfl, htt | htt | ⟨htt, hc⟩⟩ | ⟨_, _, _, _, rfl, htt⟩
  · exact .inr (.inl (by decide))
  · exact .inl ⟨k.data, by simp [Token.render, htt]⟩
  · have h := (isTag_iff k).mpr (.inr (.inl htt))
    exact .inr (.inr (.inr ⟨_, rfl, h, hx _ hk h⟩))
  · exact .inr (.inr (.inl ⟨k.data, by simp [Token.render, htt], hc⟩))
  · have h := (isTag_iff _).mpr (htt.elim .inl (.inr ∘ .inr))
    exact .inr (.inr (.inr ⟨_, rfl, h, hx _ hk h⟩))

end BM
