import BM.Proofs.Bytes
/-
  The provenance bridge: for a policy without AllowUnsafe, on an input none of whose raw-text tags it
  allows, every tag token an HTML tokenizer reads from the returned bytes is an input tag with the
  attribute list `sanitizeAttrs` returned for it (or an input end tag), and every text is what the loop
  wrote.  Statements proved about `sanitizeAttrs` (C02, C03, C04, C10, C11, C12) thereby become statements about
  the bytes.
-/
namespace BM
open Html Spec

theorem prov_ne_comment {p : Policy} {t k : Token} (hc : p.allowComments = false) (h : Prov p t k) :
    k.tt ≠ .comment := by
  rcases h with ⟨rfl, _⟩ | ⟨rfl, h | h | ⟨_, h⟩⟩ | ⟨_, _, _, _, rfl, h | h⟩
  · decide
  · rw [h]; decide
  · rw [h]; decide
  · rw [hc] at h; cases h
  · simp only [h]; decide
  · simp only [h]; decide

theorem prov_segOKOn {p : Policy} {t k : Token} (hraw : isRawTagName t.data = true → allowsElement p t.data = false)
    (hwf : TokWF t) (h : Prov p t k) : SegOKC k := by
  rcases h with ⟨rfl, _⟩ | ⟨rfl, htt⟩ | ⟨aps, attrs, hr, hc, rfl, htt⟩
  · exact .inl trivial
  · rcases htt with h | h | ⟨h, _⟩
    · exact .inl (segOK_of_text h)
    · exact .inl (segOK_of_end h hwf)
    · exact .inr h
  · exact .inl (segOK_cleaned hwf htt hr hraw hc)

theorem runWrites_reread_gen {p : Policy} {ts : List Token} (hwf : ∀ t ∈ ts, TokWF t)
    (hraw : ∀ t ∈ ts, isRawTagName t.data = true → allowsElement p t.data = false)
    {toks : List Token} (hw : RunWrites p ts (p.run {} ts).1 toks) :
    tokenize (p.sanitizeTokens ts) = coalesce [] (toks.map reread) :=
  tokenize_of_writes hw.1 fun k hk =>
    let ⟨t, ht, hpr⟩ := hw.2 k hk
    prov_segOKOn (hraw t ht) (hwf t ht) hpr

theorem runWrites_reread {p : Policy} {input : Bytes} (hp : PlainOn p.ensureInit (tokenize input))
    {ws : List Write} {b : Bool} {toks : List Token} (hrun : p.ensureInit.run {} (tokenize input) = (ws, b))
    (hw : RunWrites p.ensureInit (tokenize input) ws toks) :
    tokenize (p.sanitizeCore input) = coalesce [] (toks.map reread) :=
  runWrites_reread_gen (tokenize_wf input) hp.noRaw (by rw [hrun]; exact hw)

theorem bytes_provOn (p : Policy) (input : Bytes) (hp : PlainOn p.ensureInit (tokenize input)) :
    ∃ toks : List Token, p.sanitizeCore input = renderAll toks ∧
      tokenize (p.sanitizeCore input) = coalesce [] (toks.map reread) ∧
      ∀ k ∈ toks, ∃ t ∈ tokenize input, Prov p.ensureInit t k :=
  let ⟨toks, hw⟩ := run_lift (R := Prov p.ensureInit) (tokenize input)
    (fun _ _ _ _ he => let ⟨toks, h, _⟩ := emit_prov hp.noUnsafe he; ⟨toks, h⟩) {}
  ⟨toks, sanitizeTokens_of_writes hw.1, runWrites_reread_gen (tokenize_wf input) hp.noRaw hw, hw.2⟩

theorem bytes_provC (p : Policy) (hp : PlainC p.ensureInit) (input : Bytes) :
    ∃ toks : List Token, p.sanitizeCore input = renderAll toks ∧
      tokenize (p.sanitizeCore input) = coalesce [] (toks.map reread) ∧
      ∀ k ∈ toks, ∃ t ∈ tokenize input, Prov p.ensureInit t k :=
  bytes_provOn p input (hp.on _)

theorem bytes_prov (p : Policy) (hp : Plain p.ensureInit) (input : Bytes) :
    ∃ toks : List Token, p.sanitizeCore input = renderAll toks ∧
      tokenize (p.sanitizeCore input) = coalesce [] toks ∧
      ∀ k ∈ toks, ∃ t ∈ tokenize input, Prov p.ensureInit t k := by
  obtain ⟨toks, hb, hrt, hprov⟩ := bytes_provC p hp.toC input
  rw [map_reread_id fun k hk => let ⟨_, _, h⟩ := hprov k hk; prov_ne_comment hp.noComments h] at hrt
  exact ⟨toks, hb, hrt, hprov⟩

theorem reread_open_tagOn (p : Policy) (input : Bytes) (hp : PlainOn p.ensureInit (tokenize input)) :
    ∀ k ∈ tokenize (p.sanitizeCore input), (k.tt = .start ∨ k.tt = .selfClosing) → k.attrs ≠ [] →
      ∃ t ∈ tokenize input, ∃ aps, t.data = k.data ∧ p.ensureInit.attrRulesFor k.data = some aps ∧
        p.ensureInit.sanitizeAttrs k.data t.attrs aps = some k.attrs := by
  intro k hk htt _
  obtain ⟨toks, _, hrt, hprov⟩ := bytes_provOn p input hp
  rw [hrt] at hk
  rcases mem_coalesce (toks.map reread) [] k hk with ⟨h, _⟩ | ⟨hmem, _⟩
  · rcases htt with h' | h' <;> rw [h'] at h <;> cases h
  · have hnc : k.tt ≠ .comment := by rcases htt with h' | h' <;> rw [h'] <;> decide
    obtain ⟨t, ht, hpr⟩ := hprov k (mem_map_reread hmem hnc)
    rcases hpr with ⟨rfl, _⟩ | ⟨rfl, h⟩ | ⟨aps, attrs, hr, hc, rfl, _⟩
    · rcases htt with h' | h' <;> cases h'
    · rcases h with h | h | ⟨h, _⟩ <;> rcases htt with h' | h' <;> rw [h'] at h <;> cases h
    · exact ⟨t, ht, aps, rfl, hr, (cleanAttrs_eq _ t aps).symm.trans hc⟩

theorem reread_open_tagC (p : Policy) (hp : PlainC p.ensureInit) (input : Bytes) :
    ∀ k ∈ tokenize (p.sanitizeCore input), (k.tt = .start ∨ k.tt = .selfClosing) → k.attrs ≠ [] →
      ∃ t ∈ tokenize input, ∃ aps, t.data = k.data ∧ p.ensureInit.attrRulesFor k.data = some aps ∧
        p.ensureInit.sanitizeAttrs k.data t.attrs aps = some k.attrs :=
  reread_open_tagOn p input (hp.on _)

theorem reread_open_tag (p : Policy) (hp : Plain p.ensureInit) (input : Bytes) :
    ∀ k ∈ tokenize (p.sanitizeCore input), (k.tt = .start ∨ k.tt = .selfClosing) → k.attrs ≠ [] →
      ∃ t ∈ tokenize input, ∃ aps, t.data = k.data ∧ p.ensureInit.attrRulesFor k.data = some aps ∧
        p.ensureInit.sanitizeAttrs k.data t.attrs aps = some k.attrs :=
  reread_open_tagC p hp.toC input

end BM
