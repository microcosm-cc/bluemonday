import BM.Proofs.CssClean
/-
  The static analysis of Go-lite handler bodies (C18): definitions only, what the kernel runs on the
  regenerated bodies in Props/C18b.

  `acheck A fuel est estX inLoop endsBody ρ Φ stmts` follows every path of a statement list and accepts it if every
  `return e` can only return true when the handler's parameter has been shown free of hostile bytes (backslash,
  `<`, `>`, `@`, `;`, `{`, `}`); the four Booleans it carries are explained at its definition.  `ρ` (`AEnv`) gives each variable an abstract value `AV`:
  what it vouches for (`covS`/`covL`: if it is clean, so is the target), what is known of it (`cleanS`, `cleanL`,
  `funcs`, `flag`).  `Φ` (`Facts`) records which elements of list variables are known clean.

  What cleanliness comes from: `in(pieces, clean constants)`, a whole-value regexp over a clean alphabet
  (`closedRes`), another accepted handler or `recursiveCheck` over accepted handlers (`closedFns`) — applied to the
  value or to pieces that cover it: `splitValues`, `strings.Split`, `multiSplit`, `strings.TrimSpace`,
  `strings.TrimSuffix`, `[]string{v}`, what `ReplaceAll` with an inert regexp (`inertRes`) leaves, and
  `R.FindString(x) + literal == v` (`findEq`).  Three loop shapes are understood: a body that vouches for its
  element on every path, a flag cleared at the first element that fails (`flagBody?`), and a list that is only
  appended to (`accOK`).  What the analysis does not understand makes it refuse, never accept.
-/
namespace BM.Golite
open BM

/-- whose cleanliness a variable vouches for -/
inductive Target where
  | param     -- the handler's parameter
  | elem      -- the current element of the enclosing `for … range` loop
  deriving DecidableEq, Repr

inductive AV where
  | covS (t : Target)  -- a string: if it is clean, so is the target
  | covL (t : Target)  -- a list of strings: if all are clean, so is the target
  | cleanS             -- a string without hostile bytes
  | cleanL             -- a list of strings without hostile bytes
  | funcs              -- a list of handlers all named in `closedFns`
  | anyBool            -- a boolean
  | flag (t : Target)  -- a boolean that is true only if the target is clean
  | other
  deriving DecidableEq, Repr

structure ACtx where
  closedFns : List String
  closedRes : List String
  /-- regexps (anchored or not) that consume nothing but inert characters: what `FindString` returns
      is clean, and deleting their matches removes no hostile byte -/
  inertRes : List String := []

def cleanB (s : Bytes) : Bool := s.all fun c => !hostile c

def isCleanLit : Expr → Bool
  | .str s => cleanB s
  | _ => false

def isSepLit : Expr → Bool
  | .str s => cleanB s && !s.isEmpty
  | _ => false

abbrev AEnv := String → AV
def AEnv.set (ρ : AEnv) (n : String) (v : AV) : AEnv := fun m => if m == n then v else ρ m

/-- the target a string-valued variable vouches for -/
def covOf (ρ : AEnv) : Expr → Option Target
  | .var n => match ρ n with
    | .covS t => some t
    | _ => none
  | _ => none

/-- the target the first argument of `strings.Split` vouches for: a variable, or
    `strings.TrimSuffix(variable, clean literal)` -/
def covArg (ρ : AEnv) : Expr → Option Target
  | .call g [e, lit] => if g == "strings.TrimSuffix" && isSepLit lit then covOf ρ e else none
  | e => covOf ρ e

/-- the abstract value of an expression (what vouches inside a call is a variable, or for `strings.Split` and
    `strings.TrimSuffix` one more layer: `covArg`, `reDelete`) -/
def aeval (A : ACtx) (ρ : AEnv) : Expr → AV
  | .var n => ρ n
  | .str s => if cleanB s then .cleanS else .other
  | .strs es =>
    if es.all isCleanLit then .cleanL
    else match es with
      | [e] => match covOf ρ e with
        | some t => .covL t
        | none => .other
      | _ => .other
  | .funcs names => if names.all (A.closedFns.contains ·) then .funcs else .other
  | .bool _ => .anyBool
  | .call f args =>
    match args with
    | [e] =>
      if f == "splitValues" then
        match covOf ρ e with
        | some t => .covL t
        | none => .other
      else if f == "strings.TrimSpace" then
        match covOf ρ e with
        | some t => .covS t
        | none => .other
      else .other
    | e :: seps =>
      if (f == "strings.Split" && seps.length == 1 || f == "multiSplit") && seps.all isSepLit then
        match covOf ρ e with
        | some t => .covL t
        | none =>
          if f == "strings.Split" then
            match covArg ρ e with
            | some t => .covL t
            | none => .other
          else .other
      else if f == "strings.TrimSuffix" && seps.length == 1 && seps.all isSepLit then
        match covOf ρ e with
        | some t => .covS t
        | none =>
          match e with
          | .reDelete r e' =>
            if A.inertRes.contains r then
              match covOf ρ e' with
              | some t => .covS t
              | none => .other
            else .other
          | _ => .other
      else .other
    | [] => .other
  | .reDelete r e =>
    if A.inertRes.contains r then
      match covOf ρ e with
      | some t => .covS t
      | none => .other
    else .other
  | _ => .other

/-- `R.FindString(x) + lit == b`: then `b` is what an inert regexp found, followed by a clean literal -/
def findEq (A : ACtx) (ρ : AEnv) (t : Target) (a b : Expr) : Bool :=
  match a with
  | .bin op2 (.reFind r _) (.str lit) => op2 == "+" && A.inertRes.contains r && cleanB lit && aeval A ρ b == .covS t
  | _ => false

/-- "if this boolean expression evaluates to true, the target is clean" -/
def aimp (A : ACtx) (ρ : AEnv) (t : Target) : Expr → Bool
  | .bool b => !b
  | .var n => ρ n == .flag t
  | .call f args =>
    match args with
    | [a, b] =>
      if f == "in" then aeval A ρ a == .covL t && aeval A ρ b == .cleanL
      else if f == "recursiveCheck" then aeval A ρ a == .covL t && aeval A ρ b == .funcs
      else false
    | _ => false
  | .handler f a => aeval A ρ a == .covS t && A.closedFns.contains f
  | .reMatch r a => aeval A ρ a == .covS t && A.closedRes.contains r
  | .bin op a b =>
    if op == "&&" then aimp A ρ t a || aimp A ρ t b
    else if op == "||" then aimp A ρ t a && aimp A ρ t b
    else if op == "==" then findEq A ρ t a b
    else false
  | _ => false

/-!
`(L, i, false)`: if the list held by variable `L` has an element at index `i`, that element is clean;
`(L, i, true)`: every element of `L` at an index `≥ i` is clean (so `len(L) ≤ i` is such a fact).
A condition that compares `len(L)` with a constant, applies an accepted handler or regexp to `L[i]`,
or passes `L`, `L[k:]` or `[]string{L[i]}` to `in` / `recursiveCheck`, yields facts when it is true
and when it is false. -/

abbrev Fact := String × Nat × Bool
abbrev Facts := List Fact

def Fact.implied (F : Facts) (f : Fact) : Bool :=
  F.any fun g => g.1 == f.1 && (if f.2.2 then g.2.2 && decide (g.2.1 ≤ f.2.1)
    else (!g.2.2 && g.2.1 == f.2.1) || (g.2.2 && decide (g.2.1 ≤ f.2.1)))

/-- the facts that hold when either set holds -/
def Facts.inter (F G : Facts) : Facts := F.filter (Fact.implied G) ++ G.filter (Fact.implied F)

/-- every element of `L` is vouched for -/
def coversAll (F : Facts) (L : String) : Bool :=
  F.any fun g => g.1 == L && g.2.2 && (List.range g.2.1).all fun i => Fact.implied F (L, i, false)

/-- some list variable that covers target `t` has all its elements vouched for -/
def covered (F : Facts) (ρ : AEnv) (t : Target) : Bool :=
  F.any fun g => ρ g.1 == .covL t && coversAll F g.1

def listRef : Expr → Option (String × Nat)
  | .var L => some (L, 0)
  | .sliceFrom (.var L) (.int k) => if k < 0 then none else some (L, k.toNat)
  | _ => none

def elemRef : Expr → Option (String × Nat)
  | .index (.var L) (.int i) => if i < 0 then none else some (L, i.toNat)
  | _ => none

/-- what a list argument of `in` / `recursiveCheck` vouches for when the call is true -/
def listArgFacts : Expr → Facts
  | .strs [e] => match elemRef e with
    | some (L, i) => [(L, i, false)]
    | none => []
  | e => match listRef e with
    | some (L, k) => [(L, k, true)]
    | none => []

/-- `len(L) op n` with the given truth value bounds the length: `len(L) ≤ k` -/
def lenBound (op : String) (n : Int) (pol : Bool) : Option Int :=
  if pol then
    (if op == "<" then some (n - 1) else if op == "<=" then some n else if op == "==" then some n else none)
  else
    (if op == ">" then some n else if op == ">=" then some (n - 1) else if op == "!=" then some n else none)

def isListAV : AV → Bool
  | .covL _ => true
  | .cleanL => true
  | _ => false

def lenFacts (ρ : AEnv) (op : String) (a b : Expr) (pol : Bool) : Facts :=
  match a, b with
  | .call f [.var L], .int n =>
    if f == "len" && isListAV (ρ L) then
      match lenBound op n pol with
      | some k => [(L, k.toNat, true)]
      | none => []
    else []
  | _, _ => []

/-- the facts that hold when `e` evaluates to `pol` -/
def facts (A : ACtx) (ρ : AEnv) : Bool → Expr → Facts
  | pol, .not e => facts A ρ (!pol) e
  | pol, .bin op a b =>
    if op == "&&" then
      (if pol then facts A ρ true a ++ facts A ρ true b else Facts.inter (facts A ρ false a) (facts A ρ false b))
    else if op == "||" then
      (if pol then Facts.inter (facts A ρ true a) (facts A ρ true b) else facts A ρ false a ++ facts A ρ false b)
    else lenFacts ρ op a b pol
  | true, .handler f a =>
    if A.closedFns.contains f then
      match elemRef a with
      | some (L, i) => [(L, i, false)]
      | none => []
    else []
  | true, .reMatch r a =>
    if A.closedRes.contains r then
      match elemRef a with
      | some (L, i) => [(L, i, false)]
      | none => []
    else []
  | true, .call f [a, b] =>
    if f == "in" then (if aeval A ρ b == .cleanL then listArgFacts a else [])
    else if f == "recursiveCheck" then (if aeval A ρ b == .funcs then listArgFacts a else [])
    else []
  | _, _ => []

/-- a statement list that cannot be left through its end -/
def noFall (l : List Stmt) : Bool :=
  match l.getLast? with
  | some (.ret _) => true
  | some .cont => true
  | _ => false

def forget : AEnv := fun _ => .other

def havoc (ρ : AEnv) (ns : List String) : AEnv := fun m => if ns.contains m then .other else ρ m

/-- forget what was said about the element of an enclosing loop -/
def dropTag : AV → AV
  | .covS .elem => .other
  | .covL .elem => .other
  | .flag .elem => .other
  | a => a

def dropElem (ρ : AEnv) : AEnv := fun m => dropTag (ρ m)

/-- the variables a statement list may assign (loop variables included); `none` = out of fuel -/
def assignedIn : Nat → List Stmt → Option (List String)
  | 0, _ => none
  | _, [] => some []
  | fuel + 1, s :: rest =>
    match assignedIn fuel rest with
    | none => none
    | some r =>
      match s with
      | .assign n _ => some (n :: r)
      | .ifS _ thn els =>
        match assignedIn fuel thn, assignedIn fuel els with
        | some a, some b => some (a ++ b ++ r)
        | _, _ => none
      | .forRange v _ body =>
        match assignedIn fuel body with
        | some a => some (v :: a ++ r)
        | none => none
      | _ => some r

/-- "if this boolean expression evaluates to false, the target is clean" -/
def aimpF (A : ACtx) (ρ : AEnv) (t : Target) : Expr → Bool
  | .not c' => aimp A ρ t c'
  | .bin op (.var n) (.str lit) => op == "!=" && ρ n == .covS t && cleanB lit
  | _ => false

/-- the body of an accumulating loop: every statement appends to `acc` or branches.  The result says
    whether every path has appended something that covers the loop element, or has established that
    the element is clean (what else is appended does not matter: more to check is not less) -/
def accOK (A : ACtx) (ρ : AEnv) (acc : String) : Nat → Bool → List Stmt → Option Bool
  | 0, _, _ => none
  | _, done, [] => some done
  | fuel + 1, done, .assign n (.call f [.var a, x]) :: rest =>
    if n == acc && a == acc && f == "append" then accOK A ρ acc fuel (done || aeval A ρ x == .covS .elem) rest
    else if n == acc && a == acc && f == "appendSpread" then accOK A ρ acc fuel (done || aeval A ρ x == .covL .elem) rest
    else none
  | fuel + 1, done, .ifS c thn els :: rest =>
    match accOK A ρ acc fuel (done || aimp A ρ .elem c) thn, accOK A ρ acc fuel (done || aimpF A ρ .elem c) els with
    | some d1, some d2 => accOK A ρ acc fuel (d1 && d2) rest
    | _, _ => none
  | _, _, _ => none

/-- `if !cnd { flag = false; break }` as the whole body of a loop -/
def flagBody? : List Stmt → Option (Expr × String)
  | [.ifS (.not cnd) [.assign flag (.bool false), .brk] []] => some (cnd, flag)
  | _ => none

/-- the analysis of a statement list.  `est`: the parameter is already known to be clean on this
    path; `estX`: so is the current loop element; `inLoop`: the list is inside a loop body, so a
    `continue` must have established `estX`; `endsBody`: the end of the list is the end of the loop
    body, so reaching it must have established `estX` as well. -/
def acheck (A : ACtx) : Nat → Bool → Bool → Bool → Bool → AEnv → Facts → List Stmt → Bool
  | 0, _, _, _, _, _, _, _ => false
  | _, _, estX, _, endsBody, ρ, Φ, [] => !endsBody || estX || covered Φ ρ .elem
  | fuel + 1, est, estX, inLoop, endsBody, ρ, Φ, s :: rest =>
    match s with
    | .assign n e =>
      acheck A fuel est estX inLoop endsBody (ρ.set n (aeval A ρ e)) (Φ.filter fun g => g.1 != n) rest
    | .ret e => est || aimp A ρ .param e || covered (Φ ++ facts A ρ true e) ρ .param
    | .brk => false
    | .cont => inLoop && (estX || covered Φ ρ .elem)
    | .ifS c thn els =>
      acheck A fuel (est || aimp A ρ .param c) (estX || aimp A ρ .elem c) inLoop false ρ (Φ ++ facts A ρ true c) thn &&
      acheck A fuel est estX inLoop false ρ (Φ ++ facts A ρ false c) els &&
      (if noFall thn && els.isEmpty then
         -- the rest is reached only when `c` was false
         let neg : Target → Bool := fun t => match c with
           | .not c' => aimp A ρ t c'
           | _ => false
         acheck A fuel (est || neg .param) (estX || neg .elem) inLoop endsBody ρ (Φ ++ facts A ρ false c) rest
       else acheck A fuel est estX inLoop endsBody forget [] rest)
    | .forRange v e body =>
      !inLoop && !endsBody &&
      (match aeval A ρ e with
       | .covL .param =>
         -- every element is vouched for before the loop is left through its end; the body sees the
         -- variables it does not assign itself as they were before the loop
         (match assignedIn fuel body with
          | none => false
          | some ns =>
            acheck A fuel est false true true ((dropElem (havoc ρ (v :: ns))).set v (.covS .elem)) [] body &&
            acheck A fuel true false false false forget [] rest) ||
         -- a loop that clears a flag and stops at the first element a check refuses: afterwards the flag
         -- is still true only if every element passed
         (match flagBody? body with
          | some (cnd, flag) =>
            flag != v && (ρ flag == .anyBool || ρ flag == .flag .param) &&
            aimp A ((dropElem (havoc ρ [v, flag])).set v (.covS .elem)) .elem cnd &&
            acheck A fuel est false false false ((havoc ρ [v, flag]).set flag (.flag .param)) [] rest
          | none => false) ||
         -- a loop that only appends to a list: afterwards the list covers what the loop ranged over
         (match assignedIn fuel body with
          | some (acc :: _) =>
            acc != v && isListAV (ρ acc) &&
            accOK A ((dropElem (havoc ρ [v, acc])).set v (.covS .elem)) acc fuel false body == some true &&
            acheck A fuel est false false false ((havoc ρ [v, acc]).set acc (.covL .param)) [] rest
          | _ => false)
       | _ => false)

end BM.Golite
