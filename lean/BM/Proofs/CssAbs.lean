import BM.Proofs.CssAbsExpr
/-
  Soundness of the analysis of Proofs/CssAnalysis, second half: statements.  `exec_frame` (a statement list
  changes only the variables it assigns); `RelOut` (the abstract environment describes the concrete one
  outside a set of variables — what survives a loop body); the two special loops (`flagLoop_sound`,
  `accOK_sound`, `accLoop_sound`); `exec_sound`, by induction on the interpreter's fuel, for statement
  lists and for loops whose body vouches for its element; and `handlers_sound`: if the handlers in
  `closedFns` all pass the analysis, each returns true only on values without hostile bytes.
-/
namespace BM.Golite
open BM

variable {A : ACtx} {c : Ctx} {tv : Targets} {ρ : AEnv} {env : Env}

theorem assignedIn_cons_inv {F : Nat} {s : Stmt} {rest : List Stmt} {ns : List String}
    (h : assignedIn (F + 1) (s :: rest) = some ns) :
    ∃ r, assignedIn F rest = some r ∧
      match s with
      | .assign n _ => ns = n :: r
      | .ifS _ thn els => ∃ a b, assignedIn F thn = some a ∧ assignedIn F els = some b ∧ ns = a ++ b ++ r
      | .forRange v _ body => ∃ a, assignedIn F body = some a ∧ ns = v :: a ++ r
      | _ => ns = r := by
  rw [assignedIn] at h
  split at h
  · cases h
  · rename_i r hr
    refine ⟨r, hr, ?_⟩
    cases s <;> simp only at h ⊢
    case assign | ret | brk | cont => exact (Option.some.inj h).symm
    case ifS =>
      split at h
      · rename_i a b ha hb; cases h; exact ⟨a, b, ha, hb, rfl⟩
      · cases h
    case forRange =>
      split at h
      · rename_i a ha; cases h; exact ⟨a, ha, rfl⟩
      · cases h

theorem assignedIn_ret (F : Nat) (e : Expr) (rest : List Stmt) (ns : List String)
    (h : assignedIn (F + 1) (.ret e :: rest) = some ns) : assignedIn F rest = some ns := by
  obtain ⟨r, hr, h⟩ := assignedIn_cons_inv h
  cases h
  exact hr

theorem exec_frame (c : Ctx) : ∀ (k : Nat),
    (∀ (stmts : List Stmt) (env env' : Env) (ctl : Ctl) (F : Nat) (ns : List String),
      exec c k env stmts = some (env', ctl) → assignedIn F stmts = some ns →
      ∀ n, n ∉ ns → env'.get? n = env.get? n) ∧
    (∀ (body : List Stmt) (v : String) (l : List Bytes) (env env' : Env) (ctl : Ctl) (F : Nat) (ns : List String),
      loop c k env v l body = some (env', ctl) → assignedIn F body = some ns →
      ∀ n, n ≠ v → n ∉ ns → env'.get? n = env.get? n) := by
  intro k
  induction k with
  | zero =>
    constructor
    · intro stmts env env' ctl F ns h; rw [exec_zero] at h; cases h
    · intro body v l env env' ctl F ns h; rw [loop_zero] at h; cases h
  | succ k ih =>
    obtain ⟨ihE, ihL⟩ := ih
    constructor
    · intro stmts env env' ctl F ns h hns n hn
      cases stmts with
      | nil => cases exec_nil_inv h; rfl
      | cons s rest =>
        cases F with
        | zero => cases hns
        | succ F =>
        obtain ⟨r, hr, hs⟩ := assignedIn_cons_inv hns
        cases s with
        | assign x e =>
          cases hs
          obtain ⟨v, _, h⟩ := exec_assign_inv h
          rw [List.mem_cons, not_or] at hn
          rw [ihE rest _ env' ctl F r h hr n hn.2, Env.get?_set_ne env v hn.1]
        | ret e => obtain ⟨v, _, h⟩ := exec_ret_inv h; cases h; rfl
        | brk => cases exec_brk_inv h; rfl
        | cont => cases exec_cont_inv h; rfl
        | ifS cnd thn els =>
          obtain ⟨a, b, ha, hb, rfl⟩ := hs
          simp only [List.mem_append, not_or] at hn
          obtain ⟨bb, _, hrun⟩ := exec_if_inv h
          have hbr : ∀ e1 c1, exec c k env (if bb = true then thn else els) = some (e1, c1) → e1.get? n = env.get? n := by
            intro e1 c1 hbr
            cases bb
            · exact ihE els env e1 c1 F b hbr hb n hn.1.2
            · exact ihE thn env e1 c1 F a hbr ha n hn.1.1
          rcases hrun with ⟨e1, h1, h2⟩ | ⟨h1, _⟩
          · rw [ihE rest e1 env' ctl F r h2 hr n hn.2, hbr e1 _ h1]
          · exact hbr env' ctl h1
        | forRange v e body =>
          obtain ⟨a, ha, rfl⟩ := hs
          simp only [List.cons_append, List.mem_cons, List.mem_append, not_or] at hn
          obtain ⟨l, _, hrun⟩ := exec_for_inv h
          rcases hrun with ⟨e1, h1, h2⟩ | ⟨h1, _⟩
          · rw [ihE rest e1 env' ctl F r h2 hr n hn.2.2, ihL body v l env e1 .next F a h1 ha n hn.1 hn.2.1]
          · exact ihL body v l env env' ctl F a h1 ha n hn.1 hn.2.1
    · intro body v l env env' ctl F ns h hns n hnv hn
      cases l with
      | nil => cases loop_nil_inv h; rfl
      | cons x xs =>
        obtain ⟨e1, c1, hb, hrest⟩ := loop_cons_inv h
        have h1 : e1.get? n = env.get? n := by
          rw [ihE body _ e1 c1 F ns hb hns n hn, Env.get?_set_ne env _ hnv]
        rcases hrest with ⟨_, hl⟩ | ⟨_, hr⟩ | ⟨_, hr⟩
        · rw [ihL body v xs e1 env' ctl F ns hl hns n hnv hn, h1]
        · cases hr; exact h1
        · cases hr; exact h1

/-- `Rel` for the variables outside `S`: what a loop body that assigns only variables of `S` leaves standing.
    It says as much as `Rel A tv (havoc ρ S) env`; `RelOut.havoc` is the direction that is used. -/
def RelOut (A : ACtx) (tv : Targets) (ρ : AEnv) (S : List String) (env : Env) : Prop :=
  ∀ n val, n ∉ S → env.get? n = some val → AVsem A tv (ρ n) val

theorem havoc_of_mem (ρ : AEnv) {S : List String} {n : String} (h : n ∈ S) : havoc ρ S n = .other := by
  simp only [havoc, List.contains_iff_mem.mpr h, ↓reduceIte]

theorem havoc_of_not_mem (ρ : AEnv) {S : List String} {n : String} (h : n ∉ S) : havoc ρ S n = ρ n := by
  simp only [havoc, Bool.not_eq_true _ ▸ mt List.contains_iff_mem.mp h, Bool.false_eq_true, ↓reduceIte]

theorem AVsem_dropElem {p x0 : Bytes} (x : Bytes) {a : AV} {val : Val} (h : AVsem A ⟨p, x0⟩ a val) :
    AVsem A ⟨p, x⟩ (dropTag a) val := by
  cases a with
  | covS t => cases t <;> first | exact h | trivial
  | covL t => cases t <;> first | exact h | trivial
  | flag t => cases t <;> first | exact h | trivial
  | other => trivial
  | _ => exact h

theorem RelOut.havoc {A : ACtx} {tv : Targets} {ρ : AEnv} {S : List String} {env : Env}
    (h : RelOut A tv ρ S env) : Rel A tv (havoc ρ S) env := by
  intro n val hn
  by_cases hs : n ∈ S
  · rw [havoc_of_mem ρ hs]; trivial
  · rw [havoc_of_not_mem ρ hs]; exact h n val hs hn

/-- the environment a loop body starts in -/
theorem RelOut.body {p x0 : Bytes} {S : List String}
    (h : RelOut A ⟨p, x0⟩ ρ S env) (v : String) (x : Bytes) :
    Rel A ⟨p, x⟩ ((dropElem (Golite.havoc ρ S)).set v (.covS .elem)) (env.set v (.str x)) :=
  Rel.set (fun n val hn => AVsem_dropElem x (h.havoc n val hn)) v _ _ ⟨x, rfl, id⟩

theorem Rel.relOut (h : Rel A tv ρ env) (S : List String) :
    RelOut A tv ρ S env := fun n val _ hn => h n val hn

theorem RelOut.frame {S : List String} {env env' : Env}
    (h : RelOut A tv ρ S env) (hf : ∀ n, n ∉ S → env'.get? n = env.get? n) : RelOut A tv ρ S env' :=
  fun n val hn hv => h n val hn (hf n hn ▸ hv)

theorem Rel.after_loop {env env1 : Env} {v x : String} {a : AV}
    (hR : Rel A tv ρ env) (hfr : ∀ n, n ≠ v → n ≠ x → env1.get? n = env.get? n)
    (hx : ∀ val, env1.get? x = some val → AVsem A tv a val) : Rel A tv ((havoc ρ [v, x]).set x a) env1 :=
  Rel.of_set hx fun n hnx val hn => by
    by_cases hnv : n = v
    · rw [havoc_of_mem ρ (hnv ▸ List.mem_cons_self)]; trivial
    · rw [havoc_of_not_mem ρ (by simp [hnv, hnx])]
      exact hR n val (hfr n hnv hnx ▸ hn)

theorem noFall_not_next (c : Ctx) : ∀ (k : Nat) (l : List Stmt) (env env' : Env), noFall l = true →
    exec c k env l = some (env', .next) → False := by
  intro k
  induction k with
  | zero => intro l env env' _ h; rw [exec_zero] at h; cases h
  | succ k ih =>
    intro l env env' hnf h
    cases l with
    | nil => simp [noFall] at hnf
    | cons s rest =>
      -- a statement that lets control through is not the last one, and the rest cannot be left through its end either
      have hrest : noFall [s] = false → ∀ e1, exec c k e1 rest = some (env', .next) → False := by
        intro hs e1 h1
        cases rest with
        | nil => rw [hs] at hnf; cases hnf
        | cons b l => exact ih (b :: l) e1 env' (by unfold noFall at hnf ⊢; rwa [List.getLast?_cons_cons] at hnf) h1
      cases s with
      | assign x e => obtain ⟨v, _, h⟩ := exec_assign_inv h; exact hrest rfl _ h
      | ret e => obtain ⟨v, _, h⟩ := exec_ret_inv h; cases h
      | brk => cases exec_brk_inv h
      | cont => cases exec_cont_inv h
      | ifS cnd thn els =>
        obtain ⟨b, _, hrun⟩ := exec_if_inv h
        rcases hrun with ⟨e1, _, h2⟩ | ⟨_, hne⟩
        · exact hrest rfl e1 h2
        · exact hne rfl
      | forRange v e body =>
        obtain ⟨l, _, hrun⟩ := exec_for_inv h
        rcases hrun with ⟨e1, _, h2⟩ | ⟨_, hne⟩
        · exact hrest rfl e1 h2
        · exact hne rfl

theorem flagBody?_spec {body : List Stmt} {cnd : Expr} {flag : String} (h : flagBody? body = some (cnd, flag)) :
    body = [.ifS (.not cnd) [.assign flag (.bool false), .brk] []] := by
  unfold flagBody? at h
  split at h
  · cases h; rfl
  · cases h

theorem flagBody_exec {cnd : Expr} {flag : String} {k1 : Nat} {envx env1 : Env} {ctl1 : Ctl}
    (h : exec c k1 envx [.ifS (.not cnd) [.assign flag (.bool false), .brk] []] = some (env1, ctl1)) :
    ∃ k3, k1 = k3 + 2 ∧
      ((evalE c k3 envx cnd = some (.bool true) ∧ env1 = envx ∧ ctl1 = .next) ∨
       (evalE c k3 envx cnd = some (.bool false) ∧ env1 = envx.set flag (.bool false) ∧ ctl1 = .brk)) := by
  obtain ⟨k, rfl⟩ := exec_pos h
  obtain ⟨b, hb, hrun⟩ := exec_if_inv h
  obtain ⟨k, rfl⟩ := evalE_pos hb
  obtain ⟨b', hc, hv⟩ := evalE_not_inv hb
  cases hv
  refine ⟨k, rfl, ?_⟩
  cases b' with
  | true =>
    -- the empty else branch, then the empty rest
    rcases hrun with ⟨e1, h1, h2⟩ | ⟨h1, hne⟩
    · cases exec_nil_inv h1; cases exec_nil_inv h2; exact .inl ⟨hc, rfl, rfl⟩
    · cases exec_nil_inv h1; exact absurd rfl hne
  | false =>
    have hthen : ∀ r, exec c (k + 1) envx [.assign flag (.bool false), .brk] = some r → r = (envx.set flag (.bool false), .brk) := by
      intro r h1
      obtain ⟨v, hv, h1⟩ := exec_assign_inv h1
      cases evalE_bool hv
      obtain ⟨k, rfl⟩ := exec_pos h1
      exact exec_brk_inv h1
    rcases hrun with ⟨e1, h1, _⟩ | ⟨h1, _⟩
    · cases hthen _ h1
    · cases hthen _ h1; exact .inr ⟨hc, rfl, rfl⟩

theorem flagLoop_sound (A : ACtx) (c : Ctx) (hS : SoundCtx A c) (cnd : Expr) (flag v : String) (hfv : flag ≠ v)
    (ρ : AEnv) (p x0 : Bytes)
    (hcnd : aimp A ((dropElem (havoc ρ [v, flag])).set v (.covS .elem)) .elem cnd = true) :
    ∀ (l : List Bytes) (k : Nat) (env env' : Env) (ctl : Ctl), CallsOK A c (k - 1) →
      RelOut A ⟨p, x0⟩ ρ [v, flag] env → (∀ val, env.get? flag = some val → ∃ b0, val = .bool b0) →
      loop c k env v l [.ifS (.not cnd) [.assign flag (.bool false), .brk] []] = some (env', ctl) →
      ctl = .next ∧ (∀ n, n ≠ v → n ≠ flag → env'.get? n = env.get? n) ∧
        ∀ val, env'.get? flag = some val → ∃ b, val = .bool b ∧ (b = true → CleanL l) := by
  intro l
  induction l with
  | nil =>
    intro k env env' ctl _ _ hb0 h
    cases loop_nil_inv h
    refine ⟨rfl, fun _ _ _ => rfl, fun val hval => ?_⟩
    obtain ⟨b0, rfl⟩ := hb0 val hval
    exact ⟨b0, rfl, fun _ s hs => nomatch hs⟩
  | cons x xs ih =>
    intro k env env' ctl hC hRO hb0 h
    obtain ⟨k, rfl⟩ := loop_pos h
    obtain ⟨e1, c1, hb, hrest⟩ := loop_cons_inv h
    obtain ⟨k3, rfl, hcase⟩ := flagBody_exec hb
    have hsetv : ∀ n, n ≠ v → (env.set v (.str x)).get? n = env.get? n := fun n hn => Env.get?_set_ne env _ hn
    rcases hcase with ⟨hc, rfl, rfl⟩ | ⟨hc, rfl, rfl⟩
    · -- the element passed: the loop goes on
      rcases hrest with ⟨_, hl⟩ | ⟨h1, _⟩ | ⟨⟨w, h1⟩, _⟩
      · have hx : Clean x := aimp_sound A c hS ⟨p, x⟩ _ _ (hRO.body v x) .elem k3 cnd (hC.mono (by omega)) hcnd hc
        have hRO' : RelOut A ⟨p, x0⟩ ρ [v, flag] (env.set v (.str x)) :=
          hRO.frame fun n hn => hsetv n fun e => hn (e ▸ List.mem_cons_self)
        obtain ⟨r1, r2, r3⟩ := ih (k3 + 2) _ env' ctl (hC.mono (by omega)) hRO'
          (fun val hval => hb0 val (hsetv flag hfv ▸ hval)) hl
        refine ⟨r1, fun n hn1 hn2 => (r2 n hn1 hn2).trans (hsetv n hn1), fun val hval => ?_⟩
        obtain ⟨b, rfl, r4⟩ := r3 val hval
        exact ⟨b, rfl, fun hbt => List.forall_mem_cons.mpr ⟨hx, r4 hbt⟩⟩
      · cases h1
      · cases h1
    · -- the element was refused: the flag is cleared and the loop is left
      rcases hrest with ⟨h1, _⟩ | ⟨_, hr⟩ | ⟨⟨w, h1⟩, _⟩
      · rcases h1 with h1 | h1 <;> cases h1
      · cases hr
        refine ⟨rfl, fun n hn1 hn2 => (Env.get?_set_ne _ _ hn2).trans (hsetv n hn1), fun val hval => ?_⟩
        rw [Env.get?_set_self] at hval
        cases hval
        exact ⟨false, rfl, fun hh => nomatch hh⟩
      · cases h1

theorem accOK_assign_inv {acc n : String} {e : Expr} {fuel : Nat} {done d : Bool} {rest : List Stmt}
    (h : accOK A ρ acc (fuel + 1) done (.assign n e :: rest) = some d) :
    ∃ f x b, n = acc ∧ e = .call f [.var acc, x] ∧ accOK A ρ acc fuel (done || b) rest = some d ∧
      ((f = "append" ∧ b = (aeval A ρ x == .covS .elem)) ∨ (f = "appendSpread" ∧ b = (aeval A ρ x == .covL .elem))) := by
  unfold accOK at h
  split at h
  · cases h
  · contradiction
  · rename_i heq1 heq3
    cases heq1
    cases heq3
    split at h
    · rename_i hcond
      simp only [Bool.and_eq_true, beq_iff_eq] at hcond
      obtain ⟨⟨rfl, rfl⟩, rfl⟩ := hcond
      exact ⟨_, _, _, rfl, rfl, h, .inl ⟨rfl, rfl⟩⟩
    · split at h
      · rename_i hcond
        simp only [Bool.and_eq_true, beq_iff_eq] at hcond
        obtain ⟨⟨rfl, rfl⟩, rfl⟩ := hcond
        exact ⟨_, _, _, rfl, rfl, h, .inr ⟨rfl, rfl⟩⟩
      · cases h
  · rename_i heq; cases heq
  · first | contradiction | cases h

theorem accOK_if_inv {acc : String} {cnd : Expr} {thn els : List Stmt} {fuel : Nat} {done d : Bool}
    {rest : List Stmt} (h : accOK A ρ acc (fuel + 1) done (.ifS cnd thn els :: rest) = some d) :
    ∃ d1 d2, accOK A ρ acc fuel (done || aimp A ρ .elem cnd) thn = some d1 ∧
      accOK A ρ acc fuel (done || aimpF A ρ .elem cnd) els = some d2 ∧ accOK A ρ acc fuel (d1 && d2) rest = some d := by
  simp only [accOK] at h
  split at h
  · rename_i d1 d2 hd1 hd2; exact ⟨d1, d2, hd1, hd2, h⟩
  · cases h

/-- `G` is whatever the list vouched for before the body ran, `Clean tv.elem` what it vouches for in
    addition once `done` is reached -/
theorem accOK_sound (A : ACtx) (c : Ctx) (hS : SoundCtx A c) (tv : Targets) (ρ : AEnv) (acc : String)
    (hacc : ρ acc = .other) (G : Prop) :
    ∀ (k : Nat), CallsOK A c (k - 1) → ∀ (fuel : Nat) (done d : Bool) (stmts : List Stmt) (env env' : Env) (ctl : Ctl),
      accOK A ρ acc fuel done stmts = some d → Rel A tv ρ env →
      (∀ val, env.get? acc = some val → ∃ w, val = .strs w ∧ (CleanL w → G)) →
      (done = true → Clean tv.elem ∨ ∃ w, env.get? acc = some (.strs w) ∧ (CleanL w → Clean tv.elem)) →
      exec c k env stmts = some (env', ctl) →
      ctl = .next ∧ (∀ n, n ≠ acc → env'.get? n = env.get? n) ∧
        (∀ val, env'.get? acc = some val → ∃ w, val = .strs w ∧ (CleanL w → G)) ∧
        (d = true → Clean tv.elem ∨ ∃ w, env'.get? acc = some (.strs w) ∧ (CleanL w → Clean tv.elem)) := by
  intro k
  induction k with
  | zero => intro _ fuel done d stmts env env' ctl _ _ _ _ h; rw [exec_zero] at h; cases h
  | succ k ih =>
    intro hC fuel done d stmts env env' ctl hok hR hJ hI h
    have hCk : CallsOK A c (k - 1) := CallsOK.pred hC
    have ih' := ih hCk
    cases fuel with
    | zero => simp [accOK] at hok
    | succ fuel =>
    cases stmts with
    | nil =>
      cases exec_nil_inv h
      simp only [accOK, Option.some.injEq] at hok
      subst hok
      exact ⟨rfl, fun _ _ => rfl, hJ, hI⟩
    | cons s rest =>
      cases s with
      | assign n e =>
        obtain ⟨f, x, b, rfl, rfl, hok, hf⟩ := accOK_assign_inv hok
        obtain ⟨v, hv, h⟩ := exec_assign_inv h
        -- the value of `append(acc, x)` / `append(acc, x...)`: the old list `w` and what is appended, `ys`
        have hval : ∃ w ys, env.get? n = some (.strs w) ∧ v = .strs (w ++ ys) ∧ (b = true → CleanL ys → Clean tv.elem) := by
          obtain ⟨k, rfl⟩ := evalE_pos hv
          obtain ⟨vs, hvs, hcall⟩ := evalE_call_inv hv
          obtain ⟨j, va, vx, rfl, h1, h2, rfl⟩ := evalArgs_two_inv hvs
          have hga := evalE_var h1
          rcases hf with ⟨rfl, rfl⟩ | ⟨rfl, rfl⟩
          · obtain ⟨w, sx, rfl, rfl, rfl⟩ := callVal_append_inv hcall
            exact ⟨w, [sx], hga, rfl, fun hb hc => covS_clean hS hR (eq_of_beq hb) h2 (hc sx List.mem_cons_self)⟩
          · obtain ⟨w, xs, rfl, rfl, rfl⟩ := callVal_appendSpread_inv hcall
            exact ⟨w, xs, hga, rfl, fun hb hc => covL_clean hS hR (eq_of_beq hb) h2 hc⟩
        obtain ⟨w, ys, hw, rfl, hb⟩ := hval
        have hget := Env.get?_set_self env n (.strs (w ++ ys))
        obtain ⟨r1, r2, r3, r4⟩ := ih' fuel _ d rest _ env' ctl hok (hR.set_other n hacc _)
          (fun val hval => by
            cases hget.symm.trans hval
            obtain ⟨w', hw', hG⟩ := hJ _ hw
            cases hw'
            exact ⟨w ++ ys, rfl, fun hcl => hG fun s hs => hcl s (List.mem_append_left _ hs)⟩)
          (fun hd => by
            rcases Bool.or_eq_true _ _ ▸ hd with hd | hd
            · rcases hI hd with hcl | ⟨w', hw', hcl⟩
              · exact .inl hcl
              · cases Val.strs.inj (Option.some.inj (hw.symm.trans hw'))
                exact .inr ⟨w ++ ys, hget, fun hc => hcl fun s hs => hc s (List.mem_append_left _ hs)⟩
            · exact .inr ⟨w ++ ys, hget, fun hc => hb hd fun s hs => hc s (List.mem_append_right _ hs)⟩) h
        exact ⟨r1, fun m hm => (r2 m hm).trans (Env.get?_set_ne env _ hm), r3, r4⟩
      | ifS cnd thn els =>
        obtain ⟨d1, d2, hd1, hd2, hok⟩ := accOK_if_inv hok
        obtain ⟨b, hb, hrun⟩ := exec_if_inv h
        have hbranch : ∀ env1 ctl1, exec c k env (if b = true then thn else els) = some (env1, ctl1) →
            ctl1 = .next ∧ (∀ n, n ≠ acc → env1.get? n = env.get? n) ∧
            (∀ val, env1.get? acc = some val → ∃ w, val = .strs w ∧ (CleanL w → G)) ∧
            ((d1 && d2) = true → Clean tv.elem ∨ ∃ w, env1.get? acc = some (.strs w) ∧ (CleanL w → Clean tv.elem)) := by
          intro env1 ctl1 hbr
          rw [Bool.and_eq_true]
          cases b with
          | true =>
            obtain ⟨r1, r2, r3, r4⟩ := ih' fuel _ d1 thn env env1 ctl1 hd1 hR hJ (fun hd =>
              (Bool.or_eq_true _ _ ▸ hd).elim hI fun hd => .inl (aimp_sound A c hS tv ρ env hR .elem k cnd hCk hd hb)) hbr
            exact ⟨r1, r2, r3, fun hd => r4 hd.1⟩
          | false =>
            obtain ⟨r1, r2, r3, r4⟩ := ih' fuel _ d2 els env env1 ctl1 hd2 hR hJ (fun hd =>
              (Bool.or_eq_true _ _ ▸ hd).elim hI fun hd => .inl (aimpF_sound hS hR hCk hd hb)) hbr
            exact ⟨r1, r2, r3, fun hd => r4 hd.2⟩
        rcases hrun with ⟨env1, h1, h2⟩ | ⟨h1, hne⟩
        · obtain ⟨_, b2, b3, b4⟩ := hbranch env1 .next h1
          have hR1 : Rel A tv ρ env1 := hR.frame fun n hn => b2 n fun e => hn (e ▸ hacc)
          obtain ⟨r1, r2, r3, r4⟩ := ih' fuel _ d rest env1 env' ctl hok hR1 b3 b4 h2
          exact ⟨r1, fun n hn => (r2 n hn).trans (b2 n hn), r3, r4⟩
        · exact absurd (hbranch env' ctl h1).1 hne
      | _ => simp [accOK] at hok

theorem accLoop_sound (A : ACtx) (c : Ctx) (hS : SoundCtx A c) (acc v : String) (hav : acc ≠ v)
    (ρ : AEnv) (p x0 : Bytes) (fuel : Nat) (body : List Stmt)
    (hok : accOK A ((dropElem (havoc ρ [v, acc])).set v (.covS .elem)) acc fuel false body = some true) :
    ∀ (l : List Bytes) (k : Nat) (env env' : Env) (ctl : Ctl), CallsOK A c (k - 1) →
      RelOut A ⟨p, x0⟩ ρ [v, acc] env →
      (∀ val, env.get? acc = some val → ∃ w, val = .strs w ∧ (CleanL w → CleanL ([] : List Bytes))) →
      loop c k env v l body = some (env', ctl) →
      ctl = .next ∧ (∀ n, n ≠ v → n ≠ acc → env'.get? n = env.get? n) ∧
        ∀ val, env'.get? acc = some val → ∃ w, val = .strs w ∧ (CleanL w → CleanL l) := by
  -- generalised: the list already vouches for the elements `seen` that the loop ranged over before
  suffices hgen : ∀ (l : List Bytes) (seen : List Bytes) (k : Nat) (env env' : Env) (ctl : Ctl), CallsOK A c (k - 1) →
      RelOut A ⟨p, x0⟩ ρ [v, acc] env →
      (∀ val, env.get? acc = some val → ∃ w, val = .strs w ∧ (CleanL w → CleanL seen)) →
      loop c k env v l body = some (env', ctl) →
      ctl = .next ∧ (∀ n, n ≠ v → n ≠ acc → env'.get? n = env.get? n) ∧
        ∀ val, env'.get? acc = some val → ∃ w, val = .strs w ∧ (CleanL w → CleanL (seen ++ l)) from
    fun l k env env' ctl hC hRO hJ h => hgen l [] k env env' ctl hC hRO hJ h
  intro l
  induction l with
  | nil =>
    intro seen k env env' ctl _ _ hJ h
    cases loop_nil_inv h
    exact ⟨rfl, fun _ _ _ => rfl, by simpa using hJ⟩
  | cons x xs ih =>
    intro seen k env env' ctl hC hRO hJ h
    obtain ⟨k, rfl⟩ := loop_pos h
    obtain ⟨env1, ctl1, hb, hrest⟩ := loop_cons_inv h
    have hsetv : ∀ n, n ≠ v → (env.set v (.str x)).get? n = env.get? n := fun n hn => Env.get?_set_ne env _ hn
    have hρacc : ((dropElem (havoc ρ [v, acc])).set v (.covS .elem)) acc = .other := by
      rw [AEnv.set_ne _ _ hav]
      show dropTag (havoc ρ [v, acc] acc) = .other
      rw [havoc_of_mem ρ (List.mem_cons_of_mem _ List.mem_cons_self)]; rfl
    obtain ⟨rfl, b2, b3, b4⟩ := accOK_sound A c hS ⟨p, x⟩ _ acc hρacc (CleanL seen) k (hC.mono (by omega)) fuel false true
      body _ env1 ctl1 hok (hRO.body v x) (fun val hval => hJ val (hsetv acc hav ▸ hval)) (fun hh => nomatch hh) hb
    rcases hrest with ⟨_, hl⟩ | ⟨h1, _⟩ | ⟨⟨w, h1⟩, _⟩
    · have hRO' : RelOut A ⟨p, x0⟩ ρ [v, acc] env1 := by
        apply hRO.frame
        intro n hn
        simp only [List.mem_cons, List.not_mem_nil, or_false, not_or] at hn
        rw [b2 n hn.2, hsetv n hn.1]
      have hJ' : ∀ val, env1.get? acc = some val → ∃ w, val = .strs w ∧ (CleanL w → CleanL (seen ++ [x])) := by
        intro val hval
        obtain ⟨w, rfl, hw⟩ := b3 val hval
        refine ⟨w, rfl, fun hcl s hs => ?_⟩
        rcases List.mem_append.mp hs with hs | hs
        · exact hw hcl s hs
        · cases List.mem_singleton.mp hs
          rcases b4 rfl with hx | ⟨w', hw', hx⟩
          · exact hx
          · cases Val.strs.inj (Option.some.inj (hval.symm.trans hw'))
            exact hx hcl
      obtain ⟨r1, r2, r3⟩ := ih (seen ++ [x]) k env1 env' ctl (hC.mono (by omega)) hRO' hJ' hl
      refine ⟨r1, fun n hn1 hn2 => by rw [r2 n hn1 hn2, b2 n hn2, hsetv n hn1], fun val hval => ?_⟩
      obtain ⟨w, rfl, hw⟩ := r3 val hval
      exact ⟨w, rfl, by simpa using hw⟩
    · cases h1
    · cases h1

/-- what the analysis promises of a run of a statement list -/
def ExecOK (tv : Targets) (inLoop endsBody : Bool) (ctl : Ctl) : Prop :=
  (ctl = .ret (.bool true) → Clean tv.param) ∧
  (inLoop = true → ctl = .cont → Clean tv.elem) ∧
  (endsBody = true → ctl = .next → Clean tv.elem) ∧
  ctl ≠ .brk

theorem exec_sound (A : ACtx) (c : Ctx) (hS : SoundCtx A c) : ∀ (k : Nat), CallsOK A c (k - 1) →
    (∀ (af : Nat) (stmts : List Stmt) (env : Env) (ρ : AEnv) (Φ : Facts) (est estX inLoop endsBody : Bool) (tv : Targets)
        (env' : Env) (ctl : Ctl),
      acheck A af est estX inLoop endsBody ρ Φ stmts = true → Rel A tv ρ env → FactsHold env Φ →
      (est = true → Clean tv.param) → (estX = true → Clean tv.elem) →
      exec c k env stmts = some (env', ctl) → ExecOK tv inLoop endsBody ctl) ∧
    (∀ (af F : Nat) (body : List Stmt) (ns : List String) (v : String) (l : List Bytes) (env : Env) (ρ : AEnv) (est : Bool)
        (p x0 : Bytes) (env' : Env) (ctl : Ctl),
      assignedIn F body = some ns →
      acheck A af est false true true ((dropElem (havoc ρ (v :: ns))).set v (.covS .elem)) [] body = true →
      RelOut A ⟨p, x0⟩ ρ (v :: ns) env → (est = true → Clean p) →
      loop c k env v l body = some (env', ctl) →
        (ctl = .ret (.bool true) → Clean p) ∧ (ctl = .next → CleanL l) ∧ ctl ≠ .brk ∧ ctl ≠ .cont) := by
  intro k
  induction k with
  | zero =>
    intro _
    constructor
    · intro af stmts env ρ Φ est estX inLoop endsBody tv env' ctl _ _ _ _ _ h; rw [exec_zero] at h; cases h
    · intro af F body ns v l env ρ est p x0 env' ctl _ _ _ _ h; rw [loop_zero] at h; cases h
  | succ k ih =>
    intro hC
    have hCk : CallsOK A c (k - 1) := CallsOK.pred hC
    obtain ⟨ihE, ihL⟩ := ih hCk
    constructor
    · intro af stmts env ρ Φ est estX inLoop endsBody tv env' ctl hac hR hΦ hest hestX h
      cases af with
      | zero => simp [acheck] at hac
      | succ af =>
      -- an established flag or a condition that implies it
      have hor : ∀ {e b : Bool} {P : Prop}, (e = true → P) → (b = true → P) → (e || b) = true → P :=
        fun h1 h2 h => (Bool.or_eq_true _ _ ▸ h).elim h1 h2
      cases stmts with
      | nil =>
        cases exec_nil_inv h
        simp only [acheck, Bool.or_eq_true, Bool.not_eq_true'] at hac
        refine ⟨nofun, fun _ => nofun, fun hin _ => ?_, nofun⟩
        rcases hac with (hac | hac) | hac
        · rw [hin] at hac; cases hac
        · exact hestX hac
        · exact covered_sound hΦ hR .elem hac
      | cons s rest =>
        cases s with
        | assign n e =>
          simp only [acheck] at hac
          obtain ⟨v, hv, h⟩ := exec_assign_inv h
          exact ihE af rest _ _ _ est estX inLoop endsBody tv env' ctl hac
            (hR.set n _ v (aeval_eq hS hR hv rfl)) (hΦ.set n v) hest hestX h
        | ret e =>
          simp only [acheck, Bool.or_eq_true] at hac
          obtain ⟨v, he, h⟩ := exec_ret_inv h
          cases h
          refine ⟨fun hv => ?_, fun _ => nofun, fun _ => nofun, nofun⟩
          cases hv
          rcases hac with (hac | hac) | hac
          · exact hest hac
          · exact aimp_sound A c hS tv ρ env hR .param k e hCk hac he
          · exact covered_sound (hΦ.append (facts_sound A c hS tv ρ env hR k e true hCk he)) hR .param hac
        | brk => simp [acheck] at hac
        | cont =>
          simp only [acheck, Bool.and_eq_true, Bool.or_eq_true] at hac
          cases exec_cont_inv h
          exact ⟨nofun, fun _ _ => hac.2.elim hestX (covered_sound hΦ hR .elem), fun _ => nofun, nofun⟩
        | ifS cnd thn els =>
          simp only [acheck, Bool.and_eq_true] at hac
          obtain ⟨⟨hthn, hels⟩, hrest⟩ := hac
          obtain ⟨b, hb, hrun⟩ := exec_if_inv h
          have hfacts := fun pol hb => hΦ.append (facts_sound A c hS tv ρ env hR k cnd pol hCk hb)
          have hbranch : ∀ env1 ctl1, exec c k env (if b = true then thn else els) = some (env1, ctl1) →
              ExecOK tv inLoop false ctl1 := by
            intro env1 ctl1 hbr
            cases b with
            | true =>
              exact ihE af thn env ρ _ _ _ inLoop false tv env1 ctl1 hthn hR (hfacts true hb)
                (hor hest fun he => aimp_sound A c hS tv ρ env hR .param k cnd hCk he hb)
                (hor hestX fun he => aimp_sound A c hS tv ρ env hR .elem k cnd hCk he hb) hbr
            | false => exact ihE af els env ρ _ est estX inLoop false tv env1 ctl1 hels hR (hfacts false hb) hest hestX hbr
          rcases hrun with ⟨env1, hbr, h⟩ | ⟨hbr, hne⟩
          · -- the branch fell through: the rest runs
            split at hrest
            · -- after `if c { …; return }` the rest is reached only when `c` was false
              rename_i hnf
              rw [List.isEmpty_iff] at hnf
              obtain ⟨hnf, rfl⟩ := hnf
              cases b with
              | true => exact absurd hbr (noFall_not_next c k thn env env1 hnf)
              | false =>
                cases exec_nil_inv hbr
                have hneg : ∀ t, (match cnd with | .not c' => aimp A ρ t c' | _ => false) = true → Clean (tv.get t) := by
                  intro t he
                  cases cnd with
                  | not c' => exact aimpF_sound (e := .not c') hS hR hCk he hb
                  | _ => cases he
                exact ihE af rest env ρ _ _ _ inLoop endsBody tv env' ctl hrest hR (hfacts false hb)
                  (hor hest (hneg .param)) (hor hestX (hneg .elem)) h
            · exact ihE af rest env1 forget [] est estX inLoop endsBody tv env' ctl hrest (Rel.forget A tv env1)
                (FactsHold.nil env1) hest hestX h
          · -- the branch did not fall through: its result is the result
            have hb := hbranch env' ctl hbr
            exact ⟨hb.1, hb.2.1, fun _ hc => absurd hc hne, hb.2.2.2⟩
        | forRange v e body =>
          simp only [acheck, Bool.and_eq_true, Bool.not_eq_true'] at hac
          obtain ⟨⟨rfl, rfl⟩, hac⟩ := hac
          obtain ⟨l, hl, hrun⟩ := exec_for_inv h
          split at hac
          · rename_i hcov
            have hcovl : CleanL l → Clean tv.param := covL_clean hS hR hcov hl
            -- after a loop that leaves in `x` a value described by `a` and changes nothing else but `v`
            have hafter : ∀ (x : String) (a : AV),
                acheck A af est false false false ((havoc ρ [v, x]).set x a) [] rest = true →
                (∀ env1 ctl1, loop c k env v l body = some (env1, ctl1) → ctl1 = .next ∧
                  (∀ n, n ≠ v → n ≠ x → env1.get? n = env.get? n) ∧ ∀ val, env1.get? x = some val → AVsem A tv a val) →
                ExecOK tv false false ctl := by
              intro x a hrest hloop
              rcases hrun with ⟨env1, hlp, h⟩ | ⟨hlp, hne⟩
              · obtain ⟨_, hframe, hx⟩ := hloop env1 .next hlp
                exact ihE af rest env1 _ [] est false false false tv env' ctl hrest (hR.after_loop hframe hx)
                  (FactsHold.nil env1) hest nofun h
              · exact absurd (hloop env' ctl hlp).1 hne
            simp only [Bool.or_eq_true] at hac
            rcases hac with (hac | hac) | hac
            · -- a loop whose body vouches for every element
              split at hac
              · cases hac
              · rename_i ns hns
                rw [Bool.and_eq_true] at hac
                obtain ⟨hbody, hrest⟩ := hac
                have hloop := fun env1 ctl1 => ihL af af body ns v l env ρ est tv.param tv.elem env1 ctl1 hns hbody (hR.relOut _) hest
                rcases hrun with ⟨env1, hlp, h⟩ | ⟨hlp, _⟩
                · exact ihE af rest env1 forget [] true false false false tv env' ctl hrest (Rel.forget A tv env1)
                    (FactsHold.nil env1) (fun _ => hcovl ((hloop env1 .next hlp).2.1 rfl)) nofun h
                · obtain ⟨h1, _, h3, _⟩ := hloop env' ctl hlp
                  exact ⟨h1, nofun, nofun, h3⟩
            · -- a flag loop
              split at hac
              · rename_i cnd flag hfb
                cases flagBody?_spec hfb
                simp only [Bool.and_eq_true, bne_iff_ne, ne_eq, Bool.or_eq_true, beq_iff_eq] at hac
                obtain ⟨⟨⟨hfv, hflag⟩, hcnd⟩, hrest⟩ := hac
                have hbool : ∀ val, env.get? flag = some val → ∃ b0, val = .bool b0 := by
                  intro val hval
                  have := hR flag val hval
                  rcases hflag with hflag | hflag <;> rw [hflag] at this
                  · exact this
                  · obtain ⟨b, hb, _⟩ := this; exact ⟨b, hb⟩
                refine hafter flag _ hrest fun env1 ctl1 hlp => ?_
                obtain ⟨r1, r2, r3⟩ := flagLoop_sound A c hS cnd flag v hfv ρ tv.param tv.elem hcnd l k env env1 ctl1
                  hCk (hR.relOut _) hbool hlp
                refine ⟨r1, r2, fun val hn => ?_⟩
                obtain ⟨b, rfl, hb⟩ := r3 val hn
                exact ⟨b, rfl, fun hbt => hcovl (hb hbt)⟩
              · cases hac
            · -- an accumulating loop
              split at hac
              · rename_i acc nsr hns
                simp only [Bool.and_eq_true, bne_iff_ne, ne_eq, beq_iff_eq] at hac
                obtain ⟨⟨⟨hav, hlist⟩, hok⟩, hrest⟩ := hac
                refine hafter acc _ hrest fun env1 ctl1 hlp => ?_
                obtain ⟨r1, r2, r3⟩ := accLoop_sound A c hS acc v hav ρ tv.param tv.elem af body hok l k env env1 ctl1
                  hCk (hR.relOut _) (fun val hval => by
                    obtain ⟨w, rfl⟩ := isListAV_sem hlist (hR acc val hval)
                    exact ⟨w, rfl, fun _ s hs => nomatch hs⟩) hlp
                refine ⟨r1, r2, fun val hn => ?_⟩
                obtain ⟨w, rfl, hw⟩ := r3 val hn
                exact ⟨w, rfl, fun hcl => hcovl (hw hcl)⟩
              · cases hac
          · cases hac
    · intro af F body ns v l env ρ est p x0 env' ctl hns hbody hRO hest h
      cases l with
      | nil =>
        cases loop_nil_inv h
        exact ⟨(fun hc => nomatch hc), (fun _ s hs => nomatch hs), nofun, nofun⟩
      | cons x xs =>
        obtain ⟨env1, ctl1, hb, hrest⟩ := loop_cons_inv h
        obtain ⟨h1, hcont, hnext, hbrk⟩ : ExecOK ⟨p, x⟩ true true ctl1 :=
          ihE af body _ _ [] est false true true ⟨p, x⟩ env1 ctl1 hbody (hRO.body v x) (FactsHold.nil _) hest nofun hb
        rcases hrest with ⟨hc1, hl⟩ | ⟨hc1, _⟩ | ⟨⟨w, rfl⟩, hr⟩
        · have hRO1 : RelOut A ⟨p, x0⟩ ρ (v :: ns) env1 := by
            apply hRO.frame
            intro n hn
            rw [List.mem_cons, not_or] at hn
            rw [(exec_frame c k).1 body _ env1 ctl1 F ns hb hns n hn.2, Env.get?_set_ne env _ hn.1]
          obtain ⟨r1, r2, r3, r4⟩ := ihL af F body ns v xs env1 ρ est p x0 env' ctl hns hbody hRO1 hest hl
          exact ⟨r1, fun hc => List.forall_mem_cons.mpr ⟨hc1.elim (hnext rfl) (hcont rfl), r2 hc⟩, r3, r4⟩
        · exact absurd hc1 hbrk
        · cases hr
          exact ⟨h1, (fun hc => nomatch hc), nofun, nofun⟩

/-- every handler named closed is defined, and its body passes the analysis with its parameter
    vouching for itself and the package-level values as `ρg` describes them -/
def ACtx.bodiesOK (A : ACtx) (c : Ctx) (ρg : AEnv) (af : Nat) : Bool :=
  A.closedFns.all fun f =>
    match c.func? f with
    | some fn => acheck A af false false false false (ρg.set fn.param (.covS .param)) [] fn.body
    | none => false

/-- **C18, composition**: in a context whose closed handlers all pass the analysis, a closed handler
    returns true only on values without hostile bytes — for every value and every amount of fuel -/
theorem handlers_sound (A : ACtx) (c : Ctx) (hS : SoundCtx A c) (ρg : AEnv)
    (hg : ∀ tv, Rel A tv ρg c.globals) (af : Nat) (hok : A.bodiesOK c ρg af = true) : ∀ k, CallsOK A c k := by
  intro k
  induction k with
  | zero =>
    intro f _ j hj s h
    cases Nat.le_zero.mp hj
    rw [callFn_zero] at h; cases h
  | succ k ih =>
    intro f hf j hj s h
    rcases Nat.le_succ_iff.mp hj with hjk | rfl
    · exact ih f hf j hjk s h
    · obtain ⟨j, fn, env', hj, hfunc, hex⟩ := callFn_inv h
      cases hj
      have hfn := List.all_eq_true.mp hok f hf
      simp only [hfunc] at hfn
      have hR : Rel A ⟨s, []⟩ (ρg.set fn.param (.covS .param)) ((fn.param, .str s) :: c.globals) :=
        (hg _).cons fn.param _ _ ⟨s, rfl, id⟩
      exact ((exec_sound A c hS k ih.pred).1 af fn.body _ _ [] false false false false ⟨s, []⟩ env' _ hfn hR
        (FactsHold.nil _) nofun nofun hex).1 rfl

end BM.Golite
