import BM.Proofs.RtTag
import BM.Proofs.RtComment
/-
  Render/tokenize round trip, document level (RT of DESIGN §3).  A token list of texts, of start / end /
  self-closing tags with well-formed names and attributes, none of them opening a raw-text element, and of
  comments is read back by the tokenizer from its serialisation token by token, up to the merging of adjacent
  texts (`coalesce`) and the re-reading of comment data (`reread`); without comments only texts are merged
  (`tokenize_renderAll`).  This is what lifts the event-level theorems about the sanitiser's writes to
  statements about the bytes it returns.
-/
namespace BM

/-- the derived `BEq` on token types is the decidable equality (so that `simp` can compute it) -/
theorem tt_beq (a b : Html.TT) : (a == b) = decide (a = b) := by
  cases a <;> cases b <;> rfl

end BM

namespace BM.Html

/-- a token the comment-free round trip (`tokenize_renderAll`) covers -/
def SegOK (t : Token) : Prop :=
  match t.tt with
  | .text => True
  | .start => NameOK' t.data ∧ isRawTagName t.data = false ∧ ∀ a ∈ t.attrs, AttrOK a
  | .selfClosing => NameOK' t.data ∧ isRawTagName t.data = false ∧ ∀ a ∈ t.attrs, AttrOK a
  | .end_ => NameOK' t.data ∧ t.attrs = []
  | .comment => False
  | .doctype => False

def SegOKC (t : Token) : Prop := SegOK t ∨ t.tt = .comment

/-- a token as the tokenizer reads it back -/
def reread (t : Token) : Token :=
  if t.tt == .comment then ⟨.comment, rereadComment t.data, []⟩ else t

theorem reread_tt (t : Token) : (reread t).tt = t.tt := by
  obtain ⟨tt, d, a⟩ := t
  cases tt <;> rfl

theorem reread_of_ne (t : Token) (h : t.tt ≠ .comment) : reread t = t := by
  unfold reread
  rw [tt_beq, decide_eq_false h]
  rfl

theorem segOK_ne_comment {t : Token} (h : SegOK t) : t.tt ≠ .comment := by
  intro hc; unfold SegOK at h; rw [hc] at h; exact h

theorem map_reread_id {ts : List Token} (h : ∀ t ∈ ts, t.tt ≠ .comment) : ts.map reread = ts := by
  conv => rhs; rw [← List.map_id ts]
  exact List.map_congr_left fun t ht => reread_of_ne t (h t ht)

def renderAll : List Token → Bytes
  | [] => []
  | t :: ts => t.render ++ renderAll ts

/-- the pending text `d` as a token list: one text token, or nothing -/
def flushText (d : Bytes) : List Token := if d.isEmpty then [] else [⟨.text, d, []⟩]

/-- what the tokenizer makes of a token list: adjacent texts are one text, empty texts vanish -/
def coalesce : Bytes → List Token → List Token
  | d, [] => flushText d
  | d, t :: ts =>
    if t.tt == .text then coalesce (d ++ t.data) ts
    else flushText d ++ t :: coalesce [] ts

theorem renderAll_append (a b : List Token) : renderAll (a ++ b) = renderAll a ++ renderAll b := by
  induction a with
  | nil => rfl
  | cons t ts ih => simp [renderAll, ih, List.append_assoc]

theorem scanText_noLt_then (e m : Bytes) (he : ∀ c ∈ e, c ≠ 60) (hm : m = [] ∨ isMarkupStart m = true) :
    scanText (e ++ m) = (e, m) := by
  induction e with
  | nil =>
    rcases hm with rfl | hm
    · rfl
    · exact scanText_markup m hm
  | cons c cs ih =>
    have hms : isMarkupStart (c :: (cs ++ m)) = false := by
      cases cs ++ m <;> simp [isMarkupStart, he c (List.mem_cons_self ..)]
    simp [scanText, hms, ih fun x hx => he x (List.mem_cons_of_mem _ hx)]

theorem next_text (d m : Bytes) (hd : d ≠ []) (hm : m = [] ∨ isMarkupStart m = true) :
    next [] (escape d ++ m) = some (⟨.text, d, []⟩, [], m) := by
  have hne : escape d ≠ [] := fun h => hd ((escape_nil_iff d).mp h)
  have hs := scanText_noLt_then (escape d) m (fun _ => escape_no_lt) hm
  rw [next_data (by simp [hne]), dataStep_text [] hs hne]
  simp [textData, convertNewlines_escape, unescape_escape]

theorem nameOK_lower (n : Bytes) (hn : NameOK' n) : lowerAscii n = n :=
  lowerAscii_id n fun x hx => ((nameByte_iff x).mp (nameOK_bytes hn x hx)).2.2.2

theorem nameOK_head (n : Bytes) (hn : NameOK' n) : ∃ c cs, n = c :: cs ∧ isAlpha c = true := by
  obtain ⟨c, cs, rfl, hc, _⟩ := hn
  exact ⟨c, cs, rfl, by simp [isAlpha, hc]⟩

theorem renderAttrs_ends_quote (a : Attr) (as : List Attr) : ∃ pre, renderAttrs (a :: as) = pre ++ [34] := by
  induction as generalizing a with
  | nil => exact ⟨32 :: a.key ++ b!"=\"" ++ escape a.val, by simp [renderAttrs]⟩
  | cons b bs ih =>
    obtain ⟨pre, hpre⟩ := ih b
    exact ⟨32 :: a.key ++ b!"=\"" ++ escape a.val ++ 34 :: pre, by
      rw [renderAttrs, hpre]; simp [List.append_assoc]⟩

/-- the byte before the final `>` of `name attrs>` is not `/`: it is the last byte of the name, or a quote -/
theorem endsSelfClosing_start (n : Bytes) (hn : NameOK' n) (as : List Attr) :
    endsSelfClosing (n ++ (renderAttrs as ++ [62])) = false := by
  cases as with
  | nil =>
    obtain ⟨y, b, hy⟩ := (List.eq_nil_or_concat n).resolve_left (by obtain ⟨c, cs, rfl, _⟩ := hn; nofun)
    have hb : b ≠ 47 := ((nameByte_iff b).mp (nameOK_bytes hn b (by rw [hy]; simp))).2.1
    rw [hy]; simp [endsSelfClosing, renderAttrs, hb]
  | cons a as' =>
    obtain ⟨pre, hpre⟩ := renderAttrs_ends_quote a as'
    rw [hpre]; simp [endsSelfClosing]

theorem endsSelfClosing_self (n : Bytes) (as : List Attr) :
    endsSelfClosing (n ++ (renderAttrs as ++ [47, 62])) = true := by
  simp [endsSelfClosing]

theorem isMarkupStart_name {n : Bytes} (hn : NameOK' n) (r : Bytes) : isMarkupStart (60 :: (n ++ r)) = true := by
  obtain ⟨c, cs, rfl, hc⟩ := nameOK_head n hn
  simp [isMarkupStart, hc]

/-- The tokenizer reads a rendered start tag (`mid = >`) or self-closing tag (`mid = />`) back; which of
    the two it is it tells from the byte before the `>`.  The input is associated as `Token.render` writes it. -/
theorem next_open (n : Bytes) (hn : NameOK' n) (hraw : isRawTagName n = false) (as : List Attr)
    (hok : ∀ a ∈ as, AttrOK a) (mid rest : Bytes) (ht : TagEnd (mid ++ rest) rest) :
    next [] (60 :: (n ++ renderAttrs as) ++ mid ++ rest) =
      some (⟨if endsSelfClosing (n ++ (renderAttrs as ++ mid)) then .selfClosing else .start, n, as⟩, [], rest) ∧
    isMarkupStart (60 :: (n ++ renderAttrs as) ++ mid ++ rest) = true := by
  have hs : 60 :: (n ++ renderAttrs as) ++ mid ++ rest = 60 :: (n ++ (renderAttrs as ++ (mid ++ rest))) := by simp
  rw [hs]
  refine ⟨?_, isMarkupStart_name hn _⟩
  have hrt := readTag_rendered n hn as hok ht
  have hcons : (n ++ (renderAttrs as ++ (mid ++ rest))).take ((n ++ (renderAttrs as ++ (mid ++ rest))).length - rest.length) =
      n ++ (renderAttrs as ++ mid) := by
    simp [← List.append_assoc]
  have hl := nameOK_lower n hn
  obtain ⟨c, cs, rfl, hc⟩ := nameOK_head n hn
  simp only [List.cons_append] at hrt hcons ⊢
  rw [next_data (List.cons_ne_nil _ _), dataStep_open [] hc hrt, hcons, hl, hraw, decodeAttrs_raw as hok]
  rfl

theorem next_end (n : Bytes) (hn : NameOK' n) (rest : Bytes) :
    next [] (b!"</" ++ tagString ⟨.end_, n, []⟩ ++ [62] ++ rest) = some (⟨.end_, n, []⟩, [], rest) ∧
    isMarkupStart (b!"</" ++ tagString ⟨.end_, n, []⟩ ++ [62] ++ rest) = true := by
  have hs : b!"</" ++ tagString ⟨.end_, n, []⟩ ++ [62] ++ rest = 60 :: 47 :: (n ++ 62 :: rest) := by
    simp [tagString, renderAttrs]
  rw [hs]
  refine ⟨?_, rfl⟩
  have hrt := readTag_rendered n hn [] (by simp) (term := 62 :: rest) (rest := rest) (.inl rfl)
  have hl := nameOK_lower n hn
  obtain ⟨c, cs, rfl, hc⟩ := nameOK_head n hn
  simp only [List.cons_append, renderAttrs, List.nil_append] at hrt ⊢
  rw [next_data (List.cons_ne_nil _ _), dataStep_close [] hc hrt, hl]

theorem next_tag (t : Token) (hk : t.tt ≠ .text) (hok : SegOKC t) (rest : Bytes) :
    next [] (t.render ++ rest) = some (reread t, [], rest) ∧ isMarkupStart (t.render ++ rest) = true := by
  obtain ⟨tt, data, attrs⟩ := t
  cases tt with
  | text => exact absurd rfl hk
  | comment => exact next_comment data rest
  | doctype => exact (hok.elim id fun h => by cases h).elim
  | start =>
    obtain ⟨hn, hraw, ha⟩ := hok.resolve_right nofun
    have h := next_open data hn hraw attrs ha [62] rest (.inl rfl)
    rw [endsSelfClosing_start data hn attrs] at h
    exact h
  | selfClosing =>
    obtain ⟨hn, hraw, ha⟩ := hok.resolve_right nofun
    have h := next_open data hn hraw attrs ha [47, 62] rest (.inr rfl)
    rw [endsSelfClosing_self data attrs] at h
    exact h
  | end_ =>
    obtain ⟨hn, ha⟩ := hok.resolve_right nofun
    simp only at ha hn
    subst ha
    exact next_end data hn rest

theorem tokenizeAux_nil (fuel : Nat) : tokenizeAux fuel [] [] = [] := by
  cases fuel <;> rfl

theorem tokenizeAux_cons {rt s rt' r : Bytes} {t : Token} (h : next rt s = some (t, rt', r)) (fuel : Nat) :
    tokenizeAux (fuel + 1) rt s = t :: tokenizeAux fuel rt' r := by
  simp only [tokenizeAux, h]

theorem render_tag_length_pos (t : Token) (hk : t.tt ≠ .text) : 0 < t.render.length := by
  obtain ⟨tt, data, attrs⟩ := t
  cases tt <;> simp [Token.render] at hk ⊢

/-- RT with a pending text `d` in front, for the induction -/
theorem tokenizeAux_rendered (ts : List Token) (hok : ∀ t ∈ ts, SegOKC t) :
    ∀ (d : Bytes) (fuel : Nat), (escape d ++ renderAll ts).length < fuel →
      tokenizeAux fuel [] (escape d ++ renderAll ts) = coalesce d (ts.map reread) := by
  induction ts with
  | nil =>
    intro d fuel hf
    obtain ⟨f, rfl⟩ : ∃ f, fuel = f + 1 := ⟨fuel - 1, by omega⟩
    by_cases hd : d = []
    · subst hd; rfl
    · show tokenizeAux (f + 1) [] (escape d ++ []) = _
      rw [tokenizeAux_cons (next_text d [] hd (.inl rfl)), tokenizeAux_nil]
      simp [coalesce, flushText, hd]
  | cons t ts ih =>
    intro d fuel hf
    have hts : ∀ x ∈ ts, SegOKC x := fun x hx => hok x (List.mem_cons_of_mem _ hx)
    by_cases hk : t.tt = .text
    · -- a text joins the pending text
      have he : escape d ++ renderAll (t :: ts) = escape (d ++ t.data) ++ renderAll ts := by
        simp [renderAll, Token.render, hk, escape_append]
      rw [he] at hf ⊢
      simp only [List.map_cons, reread_of_ne t (by rw [hk]; decide), coalesce, hk]
      exact ih hts _ _ hf
    · obtain ⟨hnext, hms⟩ := next_tag t hk (hok t (by simp)) (renderAll ts)
      have hne : ((reread t).tt == TT.text) = false := by rw [reread_tt, tt_beq, decide_eq_false hk]
      -- the tag itself, with `f + 1` fuel left
      have htag : ∀ f, (t.render ++ renderAll ts).length < f + 1 →
          tokenizeAux (f + 1) [] (t.render ++ renderAll ts) = reread t :: coalesce [] (ts.map reread) := by
        intro f hf'
        have hih : tokenizeAux f [] (renderAll ts) = coalesce [] (ts.map reread) :=
          ih hts [] f (by
            have := render_tag_length_pos t hk
            simp only [List.length_append] at hf'
            show (renderAll ts).length < f
            omega)
        rw [tokenizeAux_cons hnext, hih]
      simp only [List.map_cons, coalesce, hne, Bool.false_eq_true, ↓reduceIte, renderAll]
      have hlen : (escape d).length + (t.render ++ renderAll ts).length < fuel := by
        simpa [renderAll] using hf
      by_cases hd : d = []
      · subst hd
        obtain ⟨f, rfl⟩ : ∃ f, fuel = f + 1 := ⟨fuel - 1, by omega⟩
        exact htag f (by simpa [escape] using hlen)
      · have hpos : 0 < (escape d).length := List.length_pos_iff.mpr fun h => hd ((escape_nil_iff d).mp h)
        obtain ⟨f, rfl⟩ : ∃ f, fuel = f + 2 := ⟨fuel - 2, by omega⟩
        rw [tokenizeAux_cons (next_text d _ hd (.inr hms)), htag f (by omega)]
        simp [flushText, hd]

theorem tokenize_renderAllC (ts : List Token) (hok : ∀ t ∈ ts, SegOKC t) :
    tokenize (renderAll ts) = coalesce [] (ts.map reread) :=
  tokenizeAux_rendered ts hok [] _ (Nat.lt_succ_self _)

theorem tokenize_renderAll (ts : List Token) (hok : ∀ t ∈ ts, SegOK t) :
    tokenize (renderAll ts) = coalesce [] ts := by
  rw [tokenize_renderAllC ts fun t ht => .inl (hok t ht), map_reread_id fun t ht => segOK_ne_comment (hok t ht)]

theorem tokenize_escape (d : Bytes) (hd : d ≠ []) : tokenize (escape d) = [⟨.text, d, []⟩] := by
  have := tokenize_renderAll [⟨.text, d, []⟩] fun t ht => by rw [List.mem_singleton.mp ht]; trivial
  simpa [renderAll, Token.render, coalesce, flushText, hd] using this

end BM.Html

namespace BM
open Html

/-! ### members of a coalesced, of a re-read list -/

theorem mem_flushText {d : Bytes} {k : Token} (h : k ∈ flushText d) : k.tt = .text ∧ k.attrs = [] := by
  unfold flushText at h
  split at h
  · cases h
  · rw [List.mem_singleton.mp h]; exact ⟨rfl, rfl⟩

theorem mem_coalesce : ∀ (ts : List Token) (d : Bytes) (k : Token), k ∈ coalesce d ts →
    (k.tt = .text ∧ k.attrs = []) ∨ (k ∈ ts ∧ k.tt ≠ .text)
  | [], d, k, h => .inl (mem_flushText h)
  | t :: ts, d, k, h => by
    have tail : ∀ d, k ∈ coalesce d ts → (k.tt = .text ∧ k.attrs = []) ∨ (k ∈ t :: ts ∧ k.tt ≠ .text) :=
      fun d h => (mem_coalesce ts d k h).imp_right fun h' => ⟨List.mem_cons_of_mem _ h'.1, h'.2⟩
    simp only [coalesce] at h
    split at h
    · exact tail _ h
    · rename_i hne
      rcases List.mem_append.mp h with h | h
      · exact .inl (mem_flushText h)
      · rcases List.mem_cons.mp h with rfl | h
        · exact .inr ⟨List.mem_cons_self, fun heq => hne (by rw [heq]; rfl)⟩
        · exact tail _ h

theorem mem_map_reread {toks : List Token} {k : Token} (hk : k ∈ toks.map reread) (hnc : k.tt ≠ .comment) : k ∈ toks := by
  obtain ⟨k', hk', rfl⟩ := List.mem_map.mp hk
  have : k'.tt ≠ .comment := by rw [← reread_tt]; exact hnc
  rw [reread_of_ne k' this]; exact hk'

/-- a filter that drops every text does not see the merging of texts … -/
theorem filter_coalesce (f : Token → Bool) (hf : ∀ k, k.tt = .text → f k = false) :
    ∀ (ts : List Token) (d : Bytes), (coalesce d ts).filter f = ts.filter f
  | [], d => by
    simp only [coalesce, flushText]
    split
    · rfl
    · simp [hf ⟨.text, d, []⟩ rfl]
  | t :: ts, d => by
    simp only [coalesce]
    split
    · rename_i h
      have ht : t.tt = .text := by simpa [tt_beq] using h
      rw [filter_coalesce f hf ts, List.filter_cons, hf t ht]; rfl
    · have hflush : (flushText d).filter f = [] := by
        unfold flushText; split
        · rfl
        · simp [hf ⟨.text, d, []⟩ rfl]
      rw [List.filter_append, hflush, List.nil_append, List.filter_cons, List.filter_cons, filter_coalesce f hf ts]

/-- … and one that drops every comment does not see the re-reading of comment data -/
theorem filter_map_reread (f : Token → Bool) (hf : ∀ k, k.tt = .comment → f k = false) (ts : List Token) :
    (ts.map reread).filter f = ts.filter f := by
  induction ts with
  | nil => rfl
  | cons t ts ih =>
    rw [List.map_cons, List.filter_cons, List.filter_cons, ih]
    by_cases hc : t.tt = .comment
    · rw [hf t hc, hf (reread t) (by rw [reread_tt]; exact hc)]; rfl
    · rw [reread_of_ne t hc]

end BM
