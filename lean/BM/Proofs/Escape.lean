import BM.Html
/- x/net/html `escape` (the serialiser's escaping of text and attribute values) byte by byte, and the tokenizer's
   `unescape` undoing it: the two halves of one six-byte table (`escOne`). -/
namespace BM.Html

/-- what `escape` writes for one byte -/
def escOne (c : UInt8) : Bytes :=
  if c == 38 then b!"&amp;" else if c == 39 then b!"&#39;" else if c == 60 then b!"&lt;"
  else if c == 62 then b!"&gt;" else if c == 34 then b!"&#34;" else if c == 13 then b!"&#13;" else [c]

theorem escape_cons (c : UInt8) (cs : Bytes) : escape (c :: cs) = escOne c ++ escape cs := by
  rw [escape, escOne]
  simp only [apply_ite (· ++ escape cs), List.singleton_append]

theorem escape_eq_flatMap (s : Bytes) : escape s = s.flatMap escOne := by
  induction s with
  | nil => rfl
  | cons c cs ih => rw [escape_cons, ih, List.flatMap_cons]

theorem escOne_cases (c : UInt8) :
    (escOne c = [c] ∧ c ≠ 38 ∧ c ≠ 39 ∧ c ≠ 60 ∧ c ≠ 62 ∧ c ≠ 34 ∧ c ≠ 13) ∨
      c = 38 ∨ c = 39 ∨ c = 60 ∨ c = 62 ∨ c = 34 ∨ c = 13 := by
  by_cases h : c = 38 ∨ c = 39 ∨ c = 60 ∨ c = 62 ∨ c = 34 ∨ c = 13
  · exact .inr h
  · simp only [not_or] at h
    obtain ⟨h1, h2, h3, h4, h5, h6⟩ := h
    exact .inl ⟨by simp only [escOne, beq_iff_eq, h1, h2, h3, h4, h5, h6, ↓reduceIte], h1, h2, h3, h4, h5, h6⟩

theorem escOne_ne_nil (c : UInt8) : escOne c ≠ [] := by
  rcases escOne_cases c with ⟨he, _⟩ | hc
  · rw [he]; exact List.cons_ne_nil _ _
  · rcases hc with rfl | rfl | rfl | rfl | rfl | rfl <;> decide

/-- the bytes `escape` emits never include `<` `>` `"` `'` or CR — in this order, which is not that of `escape`'s own
    table (`escOne_cases`: `&` `'` `<` `>` `"` CR); `escape_no_lt`, `escape_no_quote`, `escape_no_cr` name the parts used -/
theorem escape_no_special (s : Bytes) :
    ∀ c ∈ escape s, c ≠ 60 ∧ c ≠ 62 ∧ c ≠ 34 ∧ c ≠ 39 ∧ c ≠ 13 := by
  induction s with
  | nil => intro c h; cases h
  | cons x xs ih =>
    intro c h
    rw [escape_cons, List.mem_append] at h
    rcases h with h | h
    · rcases escOne_cases x with ⟨he, h1⟩ | hx
      · rw [he, List.mem_singleton] at h
        subst h
        exact ⟨h1.2.2.1, h1.2.2.2.1, h1.2.2.2.2.1, h1.2.1, h1.2.2.2.2.2⟩
      · rcases hx with rfl | rfl | rfl | rfl | rfl | rfl <;> revert c <;> decide
    · exact ih c h

theorem escape_no_lt {s : Bytes} {c : UInt8} (h : c ∈ escape s) : c ≠ 60 := (escape_no_special s c h).1

theorem escape_no_quote {s : Bytes} {c : UInt8} (h : c ∈ escape s) : c ≠ 34 := (escape_no_special s c h).2.2.1

theorem escape_no_cr {s : Bytes} {c : UInt8} (h : c ∈ escape s) : c ≠ 13 := (escape_no_special s c h).2.2.2.2

theorem escape_append (s t : Bytes) : escape (s ++ t) = escape s ++ escape t := by
  simp only [escape_eq_flatMap, List.flatMap_append]

theorem length_le_escape (s : Bytes) : s.length ≤ (escape s).length := by
  induction s with
  | nil => exact Nat.le_refl _
  | cons c cs ih =>
    have := List.length_pos_iff.mpr (escOne_ne_nil c)
    rw [escape_cons, List.length_append, List.length_cons]
    omega

theorem escape_nil_iff (s : Bytes) : escape s = [] ↔ s = [] :=
  ⟨fun h => List.eq_nil_of_length_eq_zero (Nat.le_zero.mp (by simpa [h] using length_le_escape s)),
    fun h => by rw [h]; rfl⟩

/-! ### `unescape` undoes `escape` (the text half of RT, DESIGN §3) -/
theorem lk_amp : lookupEntity b!"amp;" = some (38, 0) := by decide

theorem lk_lt : lookupEntity b!"lt;" = some (60, 0) := by decide

theorem lk_gt : lookupEntity b!"gt;" = some (62, 0) := by decide

theorem unescapeAux_escOne (a : Bool) (c : UInt8) (fuel : Nat) (r : Bytes) :
    unescapeAux a (fuel + 1) (escOne c ++ r) = c :: unescapeAux a fuel r := by
  rcases escOne_cases c with ⟨he, h38, _⟩ | hc
  · rw [he]
    simp [unescapeAux, h38]
  · -- the entity written for a special byte decodes to that byte, in text and in attribute mode
    rcases hc with rfl | rfl | rfl | rfl | rfl | rfl
    all_goals
      simp [escOne, unescapeAux, unescapeEntity, List.takeWhile, isAlnum, isAlpha, isUpper, isLowerA, isDigit,
        numLoop, wrap32, numericRune, encodeRune, lk_amp, lk_lt, lk_gt]

theorem unescapeAux_escape (a : Bool) (s : Bytes) :
    ∀ fuel, s.length ≤ fuel → unescapeAux a fuel (escape s) = s := by
  induction s with
  | nil => intro fuel _; cases fuel <;> rfl
  | cons c cs ih =>
    intro fuel hf
    obtain ⟨f, rfl⟩ : ∃ f, fuel = f + 1 := ⟨fuel - 1, by simp at hf; omega⟩
    rw [escape_cons, unescapeAux_escOne, ih f (by simpa using hf)]

theorem unescape_escape (a : Bool) (s : Bytes) : unescape a (escape s) = s :=
  unescapeAux_escape a s _ (Nat.le_succ_of_le (length_le_escape s))

theorem convertNewlines_noCR : ∀ (s : Bytes), (∀ c ∈ s, c ≠ 13) → convertNewlines s = s
  | [], _ => rfl
  | [c], h => by
    have : c ≠ 13 := h c (by simp)
    simp [convertNewlines, this]
  | c :: d :: cs, h => by
    have hc : c ≠ 13 := h c (by simp)
    have ih := convertNewlines_noCR (d :: cs) (fun x hx => h x (by simp [hx]))
    simp [convertNewlines, hc, ih]

/-- no CR survives escaping, so newline conversion leaves an escaped string alone -/
theorem convertNewlines_escape (s : Bytes) : convertNewlines (escape s) = escape s :=
  convertNewlines_noCR _ fun _ => escape_no_cr

end BM.Html
