import BM.Policy
/-
  Go maps (for any key type), folds, and two facts about `applyOps` on an initialised policy: it is a plain
  fold of `applyOpInit` (`applyOps_eq_foldl`), and one call changes only the fields `BuilderOp.writes` lists
  for it (`applyOpInit_frame`), so a statement about one table has to look only at the calls that write it.
  Most tables only grow: `Adds d P Q` says that every call adds `Q op` to what `P` holds of, and what this
  gives for whole histories (`Adds.history` and its corollaries) is proved once, for every such table.
-/
namespace BM

namespace Map
variable {κ ν : Type} [BEq κ] [LawfulBEq κ]

theorem get?_set (m : Map κ ν) (k k' : κ) (v : ν) :
    (m.set k v).get? k' = if k == k' then some v else m.get? k' := by
  induction m with
  | nil => rfl
  | cons e rest ih =>
    unfold Map.set
    by_cases hk : (e.1 == k) = true
    · rw [if_pos hk]
      simp only [Map.get?, beq_iff_eq.mp hk]
      split <;> rfl
    · rw [if_neg hk]
      simp only [Map.get?, ih]
      by_cases hk' : (k == k') = true
      · simp only [if_pos hk', if_neg (beq_iff_eq.mp hk' ▸ hk)]
      · simp only [if_neg hk']

theorem get?_update (m : Map κ ν) (k k' : κ) (dflt : ν) (f : ν → ν) :
    (m.update k dflt f).get? k' = if k == k' then some (f ((m.get? k).getD dflt)) else m.get? k' :=
  get?_set _ _ _ _

theorem isSome_set (m : Map κ ν) (k k' : κ) (v : ν) :
    ((m.set k v).get? k').isSome = true ↔ (m.get? k').isSome = true ∨ k = k' := by
  rw [get?_set]
  by_cases h : k = k'
  · simp only [h, beq_self_eq_true, if_true, Option.isSome_some, or_true]
  · simp only [if_neg (mt beq_iff_eq.mp h), h, or_false]

theorem isSome_update (m : Map κ ν) (k k' : κ) (dflt : ν) (f : ν → ν) :
    ((m.update k dflt f).get? k').isSome = true ↔ (m.get? k').isSome = true ∨ k = k' :=
  isSome_set m k k' _

/-- `m[k]` of a Go map of slices, nil when absent, for any key type (the pattern tables are keyed by identity).
    `rulesOf` (Proofs/Tables) is the same expression for `Bytes` keys: statements about `rulesOf` are proved by
    the lemmas about `listAt` below, the two unfolding to one term -/
abbrev listAt {α : Type} (m : Map κ (List α)) (k : κ) : List α := (m.get? k).getD []

theorem listAt_update {α : Type} (m : Map κ (List α)) (k k' : κ) (f : List α → List α) :
    (m.update k [] f).listAt k' = if k == k' then f (m.listAt k) else m.listAt k' := by
  rw [listAt, get?_update]; split <;> rfl

theorem listAt_update_id {α : Type} (m : Map κ (List α)) (k k' : κ) : (m.update k [] id).listAt k' = m.listAt k' := by
  rw [listAt_update]
  split
  · rename_i h; rw [beq_iff_eq.mp h]; rfl
  · rfl

theorem mem_listAt_append {α : Type} (m : Map κ (List α)) (k k' : κ) (vs : List α) (x : α) :
    x ∈ (m.update k [] (· ++ vs)).listAt k' ↔ x ∈ m.listAt k' ∨ (k = k' ∧ x ∈ vs) := by
  rw [listAt_update]
  by_cases h : k = k'
  · simp only [h, beq_self_eq_true, if_true, List.mem_append, true_and]
  · simp only [if_neg (mt beq_iff_eq.mp h), h, false_and, or_false]

theorem mem_listAt_add {α : Type} (m : Map κ (List α)) (k k' : κ) (v x : α) :
    x ∈ (m.update k [] (· ++ [v])).listAt k' ↔ x ∈ m.listAt k' ∨ (k = k' ∧ x = v) := by
  rw [mem_listAt_append, List.mem_singleton]

theorem mem_listAt_nested_add {κ' α : Type} [BEq κ'] [LawfulBEq κ'] (M : Map κ (Map κ' (List α))) (e el : κ) (k k' : κ')
    (v x : α) :
    x ∈ listAt ((M.update e [] fun r => r.update k [] (· ++ [v])).listAt el) k' ↔
      x ∈ listAt (M.listAt el) k' ∨ (k = k' ∧ e = el ∧ x = v) := by
  rw [listAt_update]
  by_cases h : e = el
  · simp only [h, beq_self_eq_true, if_true, mem_listAt_add, true_and]
  · simp only [if_neg (mt beq_iff_eq.mp h), h, false_and, and_false, or_false]

theorem mem_of_get? (m : Map κ ν) (k : κ) (v : ν) (h : m.get? k = some v) : (k, v) ∈ m := by
  induction m with
  | nil => cases h
  | cons e rest ih =>
    unfold Map.get? at h
    split at h
    · rename_i hk
      rw [← beq_iff_eq.mp hk, ← Option.some.inj h]
      exact List.mem_cons_self
    · exact List.mem_cons_of_mem _ (ih h)

def KeysNodup (m : Map κ ν) : Prop := (m.map (·.1)).Nodup

theorem get?_of_mem_nodup (m : Map κ ν) (hnd : KeysNodup m) (k : κ) (v : ν) (h : (k, v) ∈ m) : m.get? k = some v := by
  induction m with
  | nil => cases h
  | cons e rest ih =>
    have hnd' := List.nodup_cons.mp hnd
    unfold Map.get?
    rcases List.mem_cons.mp h with heq | hmem
    · rw [← heq, if_pos (beq_self_eq_true k)]
    · rw [if_neg, ih hnd'.2 hmem]
      intro hk
      exact hnd'.1 (List.mem_map.mpr ⟨(k, v), hmem, (beq_iff_eq.mp hk).symm⟩)

omit [LawfulBEq κ] in
theorem mem_set (m : Map κ ν) (k : κ) (v : ν) (e : κ × ν) (h : e ∈ m.set k v) : e = (k, v) ∨ e ∈ m := by
  induction m with
  | nil => exact .inl (List.mem_singleton.mp h)
  | cons a rest ih =>
    unfold Map.set at h
    split at h
    · exact (List.mem_cons.mp h).imp_right (List.mem_cons_of_mem _)
    · rcases List.mem_cons.mp h with h | h
      · exact .inr (h ▸ List.mem_cons_self)
      · exact (ih h).imp_right (List.mem_cons_of_mem _)

theorem set_keysNodup (m : Map κ ν) (k : κ) (v : ν) (h : KeysNodup m) : KeysNodup (m.set k v) := by
  unfold KeysNodup at *
  induction m with
  | nil => exact List.nodup_cons.mpr ⟨List.not_mem_nil, List.nodup_nil⟩
  | cons a rest ih =>
    have h' := List.nodup_cons.mp h
    unfold Map.set
    split
    · rename_i hk
      rw [List.map_cons, ← beq_iff_eq.mp hk]; exact h
    · rename_i hk
      rw [List.map_cons, List.nodup_cons]
      refine ⟨fun hmem => ?_, ih h'.2⟩
      obtain ⟨e, he, hea⟩ := List.mem_map.mp hmem
      rcases mem_set rest k v e he with h1 | h1
      · exact hk (beq_iff_eq.mpr (by rw [← hea, h1]))
      · exact h'.1 (List.mem_map.mpr ⟨e, h1, hea⟩)

end Map

theorem mem_setInsert (s : List Bytes) (x el : Bytes) : el ∈ setInsert s x ↔ el ∈ s ∨ x = el := by
  unfold setInsert
  split
  · rename_i h
    exact ⟨.inl, fun h' => h'.elim id fun hx => hx ▸ List.contains_iff_mem.mp h⟩
  · simp only [List.mem_append, List.mem_singleton, eq_comm]

/-- `e ∧ n` is absorbed by `e` -/
theorem or_and_or_left {a e n : Prop} : (a ∨ e ∧ n) ∨ e ↔ a ∨ e :=
  ⟨fun h => h.elim (Or.imp_right And.left) .inr, fun h => h.elim (fun ha => .inl (.inl ha)) .inr⟩

theorem exists_mem_const {α : Type} (l : List α) (Q : Prop) : (∃ a ∈ l, Q) ↔ Q ∧ l ≠ [] := by
  cases l with
  | nil => simp only [List.not_mem_nil, false_and, exists_false, ne_eq, not_true, and_false]
  | cons a as => exact ⟨fun ⟨_, _, h⟩ => ⟨h, List.cons_ne_nil a as⟩, fun h => ⟨a, List.mem_cons_self, h.1⟩⟩

theorem foldl_inv {α β : Type} (f : β → α → β) (Inv : β → Prop) (h : ∀ b a, Inv b → Inv (f b a))
    (l : List α) (b : β) (hb : Inv b) : Inv (l.foldl f b) :=
  List.foldlRecOn l f hb fun b hb a _ => h b a hb

theorem foldl_iff {α β : Type} (f : β → α → β) (P : β → Prop) (Q : α → Prop)
    (h : ∀ b a, P (f b a) ↔ P b ∨ Q a) (l : List α) (b : β) :
    P (l.foldl f b) ↔ P b ∨ ∃ a ∈ l, Q a := by
  induction l generalizing b with
  | nil => simp only [List.foldl_nil, List.not_mem_nil, false_and, exists_false, or_false]
  | cons a as ih => simp only [List.foldl_cons, ih, h, List.mem_cons, exists_eq_or_imp, or_assoc]

theorem foldl_iff_key {α β κ : Type} (f : β → α → β) (key : α → κ) (P : κ → β → Prop) (R : κ → Prop)
    (h : ∀ b a k, P k (f b a) ↔ P k b ∨ (key a = k ∧ R (key a))) (l : List α) (b : β) (k : κ) :
    P k (l.foldl f b) ↔ P k b ∨ (k ∈ l.map key ∧ R k) := by
  rw [foldl_iff f (P k) (fun a => key a = k ∧ R (key a)) (fun b a => h b a k), List.mem_map]
  exact or_congr_right ⟨fun ⟨a, ha, hk, hr⟩ => ⟨⟨a, ha, hk⟩, hk ▸ hr⟩, fun ⟨⟨a, ha, hk⟩, hr⟩ => ⟨a, ha, hk, hk ▸ hr⟩⟩

theorem foldl_iff_mem {β κ : Type} (f : β → κ → β) (P : κ → β → Prop) (R : κ → Prop)
    (h : ∀ b a k, P k (f b a) ↔ P k b ∨ (a = k ∧ R a)) (l : List κ) (b : β) (k : κ) :
    P k (l.foldl f b) ↔ P k b ∨ (k ∈ l ∧ R k) := by
  have := foldl_iff_key f id P R h l b k
  rwa [List.map_id] at this

theorem foldl_refine {α β γ : Type} (f : β → α → β) (g : β → γ) (step : α → γ → γ)
    (h : ∀ b a, g (f b a) = step a (g b)) (l : List α) (b : β) :
    g (l.foldl f b) = l.foldl (fun s a => step a s) (g b) := by
  induction l generalizing b with
  | nil => rfl
  | cons a as ih => simp only [List.foldl_cons]; rw [ih, h]

theorem foldl_last {α β γ : Type} (f : β → α → β) (g : β → γ) (eff : α → Option γ)
    (h : ∀ b a, g (f b a) = (eff a).getD (g b)) (l : List α) (b : β) :
    g (l.foldl f b) = (l.reverse.findSome? eff).getD (g b) := by
  induction l generalizing b with
  | nil => rfl
  | cons a as ih =>
    simp only [List.foldl_cons, List.reverse_cons, List.findSome?_append, ih, h, List.findSome?_singleton]
    cases List.findSome? eff as.reverse <;> rfl

theorem foldl_lens {β φ α : Type} (get : β → φ) (set : φ → β → β) (g : φ → α → φ)
    (gs : ∀ v b, get (set v b) = v) (ss : ∀ v w b, set v (set w b) = set v b) (sg : ∀ b, set (get b) b = b)
    (l : List α) (b : β) :
    l.foldl (fun b a => set (g (get b) a) b) b = set (l.foldl g (get b)) b := by
  induction l generalizing b with
  | nil => exact (sg b).symm
  | cons a as ih => simp only [List.foldl_cons]; rw [ih, gs, ss]

/-- steps that do nothing may be dropped from a fold, and from a search for the last step with an effect -/
theorem foldl_filter_id {α γ : Type} (f : γ → α → γ) (keep : α → Bool) (h : ∀ a s, keep a = false → f s a = s)
    (l : List α) (s : γ) : l.foldl f s = (l.filter keep).foldl f s := by
  rw [List.foldl_filter]
  congr 1; funext s a
  cases hk : keep a with
  | true => rfl
  | false => exact h a s hk

theorem findSome?_reverse_filter {α γ : Type} (g : α → Option γ) (keep : α → Bool) (h : ∀ a, keep a = false → g a = none)
    (l : List α) : l.reverse.findSome? g = (l.filter keep).reverse.findSome? g := by
  induction l with
  | nil => rfl
  | cons a rest ih =>
    simp only [List.reverse_cons, List.findSome?_append, List.filter_cons]
    cases hk : keep a with
    | true => simp only [↓reduceIte, List.reverse_cons, List.findSome?_append, ih]
    | false =>
      simp only [Bool.false_eq_true, ↓reduceIte, ih, List.findSome?_cons, h a hk, List.findSome?_nil]
      cases List.findSome? g (List.filter keep rest).reverse <;> rfl

theorem lowerAscii_ascii (n : Bytes) (h : n.all (· < 0x80) = true) : (lowerAscii n).all (· < 0x80) = true := by
  simp only [lowerAscii, List.all_map, List.all_eq_true, Function.comp, decide_eq_true_eq] at h ⊢
  intro c hc
  have hc' := UInt8.lt_iff_toNat_lt.mp (h c hc)
  apply UInt8.lt_iff_toNat_lt.mpr
  unfold lowerByte
  split
  · rename_i hu
    simp only [isUpper, Bool.and_eq_true, decide_eq_true_eq] at hu
    have h2 := UInt8.le_iff_toNat_le.mp hu.2
    simp [UInt8.toNat_add] at h2 hc' ⊢
    omega
  · exact hc'

structure Switches where
  addSpaces : Bool
  requireNoFollow : Bool
  requireNoFollowFullyQualifiedLinks : Bool
  requireNoReferrer : Bool
  requireNoReferrerFullyQualifiedLinks : Bool
  requireCrossOriginAnonymous : Bool
  addTargetBlankToFullyQualifiedLinks : Bool
  requireParseableURLs : Bool
  allowRelativeURLs : Bool
  allowDataAttributes : Bool
  allowComments : Bool
  allowUnsafe : Bool
  requireSandboxOnIFrame : Option (List Bytes)
  srcRewriter : Option UrlRewriter

def Policy.switches (p : Policy) : Switches :=
  { addSpaces := p.addSpaces, requireNoFollow := p.requireNoFollow,
    requireNoFollowFullyQualifiedLinks := p.requireNoFollowFullyQualifiedLinks,
    requireNoReferrer := p.requireNoReferrer,
    requireNoReferrerFullyQualifiedLinks := p.requireNoReferrerFullyQualifiedLinks,
    requireCrossOriginAnonymous := p.requireCrossOriginAnonymous,
    addTargetBlankToFullyQualifiedLinks := p.addTargetBlankToFullyQualifiedLinks,
    requireParseableURLs := p.requireParseableURLs, allowRelativeURLs := p.allowRelativeURLs,
    allowDataAttributes := p.allowDataAttributes, allowComments := p.allowComments,
    allowUnsafe := p.allowUnsafe, requireSandboxOnIFrame := p.requireSandboxOnIFrame,
    srcRewriter := p.srcRewriter }

/-- the parts of a policy a builder call can write: the eleven tables and sets, and the switches
    taken together -/
inductive Fld
  | elsAndAttrs | elsMatchingAndAttrs | globalAttrs | elsAndStyles | elsMatchingAndStyles | globalStyles
  | allowURLSchemes | allowURLSchemeRegexps | setOfElementsAllowedWithoutAttrs
  | setOfElementsMatchingAllowedWithoutAttrs | setOfElementsToSkipContent | switches

/-- the parts a call (after its `init()`) may write.  It follows the writers' table of policy.go
    (`expectedBuilderWrites`, Props/BuilderPins), with the switch fields taken together; what is proved
    about it is `applyOpInit_frame`, that the model's calls write no more.  The calls that fill tables leave the
    switches alone, except that registering a scheme switches URL parsing on; every other call writes only switches. -/
def BuilderOp.writes : BuilderOp → Fld → Bool
  | .allowElements _, .elsAndAttrs
  | .allowElementsMatching _, .elsMatchingAndAttrs
  | .allowAttrs _ _ _ (.onElements _), .elsAndAttrs
  | .allowAttrs _ _ _ (.onElements _), .setOfElementsAllowedWithoutAttrs
  | .allowAttrs _ _ _ (.onElementsMatching _), .elsMatchingAndAttrs
  | .allowAttrs _ _ _ (.onElementsMatching _), .setOfElementsMatchingAllowedWithoutAttrs
  | .allowAttrs _ _ _ .globally, .globalAttrs
  | .allowStyles _ _ (.onElements _), .elsAndStyles
  | .allowStyles _ _ (.onElementsMatching _), .elsMatchingAndStyles
  | .allowStyles _ _ .globally, .globalStyles
  | .allowURLSchemesMatching _, .allowURLSchemeRegexps
  | .allowURLSchemes _, .allowURLSchemes
  | .allowURLSchemeWithCustomPolicy _ _, .allowURLSchemes
  | .skipElementsContent _, .setOfElementsToSkipContent
  | .allowElementsContent _, .setOfElementsToSkipContent => true
  | .allowElements _, .switches | .allowElementsMatching _, .switches | .allowAttrs _ _ _ _, .switches
  | .allowStyles _ _ _, .switches | .allowURLSchemesMatching _, .switches | .skipElementsContent _, .switches
  | .allowElementsContent _, .switches => false
  | _, .switches => true
  | _, _ => false

/-- `q` agrees with `p` on every part `w` does not mark -/
structure AgreeOff (w : Fld → Bool) (p q : Policy) : Prop where
  initialized : q.initialized = p.initialized
  elsAndAttrs : w .elsAndAttrs = false → q.elsAndAttrs = p.elsAndAttrs
  elsMatchingAndAttrs : w .elsMatchingAndAttrs = false → q.elsMatchingAndAttrs = p.elsMatchingAndAttrs
  globalAttrs : w .globalAttrs = false → q.globalAttrs = p.globalAttrs
  elsAndStyles : w .elsAndStyles = false → q.elsAndStyles = p.elsAndStyles
  elsMatchingAndStyles : w .elsMatchingAndStyles = false → q.elsMatchingAndStyles = p.elsMatchingAndStyles
  globalStyles : w .globalStyles = false → q.globalStyles = p.globalStyles
  allowURLSchemes : w .allowURLSchemes = false → q.allowURLSchemes = p.allowURLSchemes
  allowURLSchemeRegexps : w .allowURLSchemeRegexps = false → q.allowURLSchemeRegexps = p.allowURLSchemeRegexps
  setOfElementsAllowedWithoutAttrs :
    w .setOfElementsAllowedWithoutAttrs = false → q.setOfElementsAllowedWithoutAttrs = p.setOfElementsAllowedWithoutAttrs
  setOfElementsMatchingAllowedWithoutAttrs : w .setOfElementsMatchingAllowedWithoutAttrs = false →
    q.setOfElementsMatchingAllowedWithoutAttrs = p.setOfElementsMatchingAllowedWithoutAttrs
  setOfElementsToSkipContent :
    w .setOfElementsToSkipContent = false → q.setOfElementsToSkipContent = p.setOfElementsToSkipContent
  switches : w .switches = false → q.switches = p.switches

theorem AgreeOff.refl (w : Fld → Bool) (p : Policy) : AgreeOff w p p :=
  ⟨rfl, fun _ => rfl, fun _ => rfl, fun _ => rfl, fun _ => rfl, fun _ => rfl, fun _ => rfl, fun _ => rfl,
   fun _ => rfl, fun _ => rfl, fun _ => rfl, fun _ => rfl, fun _ => rfl⟩

theorem AgreeOff.trans {w : Fld → Bool} {p q r : Policy} (a : AgreeOff w p q) (b : AgreeOff w q r) : AgreeOff w p r :=
  ⟨b.1.trans a.1, fun h => (b.2 h).trans (a.2 h), fun h => (b.3 h).trans (a.3 h), fun h => (b.4 h).trans (a.4 h),
   fun h => (b.5 h).trans (a.5 h), fun h => (b.6 h).trans (a.6 h), fun h => (b.7 h).trans (a.7 h),
   fun h => (b.8 h).trans (a.8 h), fun h => (b.9 h).trans (a.9 h), fun h => (b.10 h).trans (a.10 h),
   fun h => (b.11 h).trans (a.11 h), fun h => (b.12 h).trans (a.12 h), fun h => (b.13 h).trans (a.13 h)⟩

theorem AgreeOff.foldl {α : Type} {w : Fld → Bool} (f : Policy → α → Policy) (h : ∀ p a, AgreeOff w p (f p a))
    (l : List α) (p : Policy) : AgreeOff w p (l.foldl f p) := by
  induction l generalizing p with
  | nil => exact .refl w p
  | cons a l ih => exact (h p a).trans (ih _)

theorem attrsOnElement_eq (p : Policy) (names : List Bytes) (re : AttrPolicy) (ae : Bool) (e : Bytes) :
    attrsOnElement p names re ae e =
      { p with
        elsAndAttrs :=
          (let m := names.foldl (fun m a => Map.update m e [] fun r => addAttrRule r a re) p.elsAndAttrs
           if ae then m.update e [] id else m)
        setOfElementsAllowedWithoutAttrs :=
          if ae then setInsert p.setOfElementsAllowedWithoutAttrs e else p.setOfElementsAllowedWithoutAttrs } := by
  unfold attrsOnElement
  rw [foldl_lens (fun p : Policy => p.elsAndAttrs) (fun v p => { p with elsAndAttrs := v })
    (fun m a => Map.update m e [] fun r => addAttrRule r a re) (fun _ _ => rfl) (fun _ _ _ => rfl) (fun _ => rfl)]
  cases ae <;> rfl

/-- one call writes only the parts `op.writes` marks (loops by `AgreeOff.foldl`, loop + record update by
    `AgreeOff.trans`) -/
theorem applyOpInit_frame (d : Bytes → Bytes → Bool) (p : Policy) (op : BuilderOp) :
    AgreeOff op.writes p (applyOpInit d p op) := by
  cases op
  case' allowAttrs names re ae scope =>
    cases scope
    case' onElements els =>
      refine AgreeOff.foldl _ (fun p e => ?_) _ _
      rw [attrsOnElement_eq]
    case' onElementsMatching r =>
      -- with `AllowNoAttrs` the call first does what it does without: the loop over the attribute names
      cases ae
      case' true =>
        refine AgreeOff.trans (q := applyOpInit d p (.allowAttrs names re false (.onElementsMatching r)))
          (AgreeOff.foldl _ (fun p a => ?_) _ _) ?_
      case' false => refine AgreeOff.foldl _ (fun p a => ?_) _ _
    case' globally => refine AgreeOff.foldl _ (fun p a => ?_) _ _
  case' allowStyles names m scope =>
    cases scope
    case' onElements els => refine AgreeOff.foldl _ (fun p e => AgreeOff.foldl _ (fun p a => ?_) _ _) _ _
    case' onElementsMatching r => refine AgreeOff.foldl _ (fun p a => ?_) _ _
    case' globally => refine AgreeOff.foldl _ (fun p a => ?_) _ _
  case' allowElements names => refine AgreeOff.foldl _ (fun p a => ?_) _ _
  case' skipElementsContent names => refine AgreeOff.foldl _ (fun p a => ?_) _ _
  case' allowElementsContent names => refine AgreeOff.foldl _ (fun p a => ?_) _ _
  case' allowURLSchemes names => refine AgreeOff.trans ?_ (AgreeOff.foldl _ (fun p a => ?_) _ _)
  case' allowElementsMatching r => simp only [applyOpInit]; split
  -- what is left are single record updates: a part is untouched, or it is marked as written and `h` is absurd
  -- (where the call is still folded, `dsimp` exposes the record update, so that the thirteen `rfl`s compare fields)
  all_goals
    try dsimp only [applyOpInit]
    refine ⟨rfl, ?_, ?_, ?_, ?_, ?_, ?_, ?_, ?_, ?_, ?_, ?_, ?_⟩ <;> intro h <;> first | exact rfl | cases h

theorem applyOpInit_initialized (d : Bytes → Bytes → Bool) (p : Policy) (op : BuilderOp) :
    (applyOpInit d p op).initialized = p.initialized := (applyOpInit_frame d p op).initialized

theorem ensureInit_of_init (p : Policy) (h : p.initialized = true) : p.ensureInit = p := by
  simp only [Policy.ensureInit, h, if_true]

theorem ensureInit_initialized (p : Policy) : p.ensureInit.initialized = true := by
  unfold Policy.ensureInit
  split
  · assumption
  · rfl

/-- `init()` leaves the switches alone -/
theorem ensureInit_switches (p : Policy) : p.ensureInit.switches = p.switches := by
  unfold Policy.ensureInit; split <;> rfl

theorem applyOp_init_eq (d : Bytes → Bytes → Bool) (p : Policy) (hi : p.initialized = true) (op : BuilderOp) :
    applyOp d p op = applyOpInit d p op := by
  unfold applyOp
  rw [ensureInit_of_init p hi, ite_self]

theorem applyOps_eq_foldl (d : Bytes → Bytes → Bool) (p : Policy) (hi : p.initialized = true) (ops : List BuilderOp) :
    applyOps d p ops = ops.foldl (applyOpInit d) p := by
  unfold applyOps
  induction ops generalizing p with
  | nil => rfl
  | cons op rest ih =>
    simp only [List.foldl_cons, applyOp_init_eq d p hi]
    exact ih _ ((applyOpInit_initialized d p op).trans hi)

theorem applyOps_initialized (d : Bytes → Bytes → Bool) (p : Policy) (hi : p.initialized = true) (ops : List BuilderOp) :
    (applyOps d p ops).initialized = true := by
  rw [applyOps_eq_foldl d p hi]
  exact foldl_inv _ (·.initialized = true) (fun b a hb => (applyOpInit_initialized d b a).trans hb) ops p hi

/-- a law that a reading `P` of the policy may obey: a builder call makes `P` true exactly when it was true or the
    call contributes it (`Q`); `d` is the default CSS handler that `AllowStyles` without `Matching…` installs.  The
    tables of Proofs/Tables are the instances (`tables_adds`); what follows from the law for whole histories is
    proved here once. -/
def Adds (d : Bytes → Bytes → Bool) (P : Policy → Prop) (Q : BuilderOp → Prop) : Prop :=
  ∀ p op, P (applyOpInit d p op) ↔ P p ∨ Q op

theorem Adds.history {d : Bytes → Bytes → Bool} {P : Policy → Prop} {Q : BuilderOp → Prop} (h : Adds d P Q)
    (p : Policy) (hi : p.initialized = true) (ops : List BuilderOp) :
    P (applyOps d p ops) ↔ P p ∨ ∃ op ∈ ops, Q op := by
  rw [applyOps_eq_foldl d p hi]; exact foldl_iff _ P Q h ops p

theorem Adds.of_empty {d : Bytes → Bytes → Bool} {P : Policy → Prop} {Q : BuilderOp → Prop} (h : Adds d P Q)
    {p : Policy} (hi : p.initialized = true) (h0 : ¬ P p) (ops : List BuilderOp) :
    P (applyOps d p ops) ↔ ∃ op ∈ ops, Q op :=
  (h.history p hi ops).trans (or_iff_right h0)

/-- `P` of a built policy grows with the set of calls of the history (whence `same_of_mem`: it depends on the
    history only through that set) -/
theorem Adds.subset {d : Bytes → Bytes → Bool} {P : Policy → Prop} {Q : BuilderOp → Prop} (h : Adds d P Q)
    (p : Policy) (hi : p.initialized = true) (ops₁ ops₂ : List BuilderOp) (hm : ∀ op ∈ ops₁, op ∈ ops₂)
    (hp : P (applyOps d p ops₁)) : P (applyOps d p ops₂) := by
  rw [h.history p hi] at hp ⊢
  exact hp.imp_right fun ⟨op, hop, hq⟩ => ⟨op, hm op hop, hq⟩

theorem Adds.same_of_mem {d : Bytes → Bytes → Bool} {P : Policy → Prop} {Q : BuilderOp → Prop} (h : Adds d P Q)
    (p : Policy) (hi : p.initialized = true) (ops₁ ops₂ : List BuilderOp) (hm : ∀ op, op ∈ ops₁ ↔ op ∈ ops₂) :
    P (applyOps d p ops₁) ↔ P (applyOps d p ops₂) :=
  ⟨h.subset p hi _ _ fun op => (hm op).mp, h.subset p hi _ _ fun op => (hm op).mpr⟩

theorem Adds.same_of_map {d : Bytes → Bytes → Bool} {P : Policy → Prop} {Q : BuilderOp → Prop} (h : Adds d P Q)
    (g : BuilderOp → BuilderOp) (hg : ∀ op, Q (g op) ↔ Q op) (p : Policy) (hi : p.initialized = true)
    (ops : List BuilderOp) : P (applyOps d p (ops.map g)) ↔ P (applyOps d p ops) := by
  rw [h.history p hi, h.history p hi]
  refine or_congr_right ⟨fun ⟨_, hm, hq⟩ => ?_, fun ⟨op, hm, hq⟩ => ⟨g op, List.mem_map_of_mem hm, (hg op).mpr hq⟩⟩
  obtain ⟨op, hop, rfl⟩ := List.mem_map.mp hm
  exact ⟨op, hop, (hg op).mp hq⟩

theorem Adds.mono {d : Bytes → Bytes → Bool} {P : Policy → Prop} {Q : BuilderOp → Prop} (h : Adds d P Q)
    (p : Policy) (hi : p.initialized = true) (ops more : List BuilderOp) (hp : P (applyOps d p ops)) :
    P (applyOps d p (ops ++ more)) :=
  h.subset p hi _ _ (fun _ => List.mem_append_left _) hp

/-- the shape of most cases of an `Adds` lemma: the call leaves alone the part `R` reads and contributes nothing -/
theorem unchanged_of_eq {φ : Type} (R : φ → Prop) {a b : φ} {Q : Prop} (h : a = b) (hq : ¬ Q) : R a ↔ R b ∨ Q := by
  rw [h]; exact (or_iff_left hq).symm

end BM
