import BM.Regex
/-
  What the executable matcher decides.  `Matches r p s p' s'` is the textbook meaning of a regular expression
  with anchors: `r` matches from the position (previous rune `p`, remaining input `s`) to the position (`p'`, `s'`).
  `m_adequate`: the backtracking matcher `Re.m` — Perl priority order, greedy and lazy loops, loop iterations that
  must make progress, loop fuel — succeeds with a continuation `k` exactly when there is such a match after which
  `k` succeeds.  So `MatchString` (`Re.search`), `Re.fullMatch` and `Re.matchesAt` decide the declarative relation;
  priorities and greediness decide *which* match is found first, never *whether* one exists.  For an
  expression `^ … $` a search matches the whole string or nothing (`search_anchored`, last section).
-/
namespace BM.Re

inductive Matches : Re → Option Rune → List Rune → Option Rune → List Rune → Prop where
  | empty (p s) : Matches .empty p s p s
  | cls (rs p c cs) : inRanges c rs = true → Matches (.cls rs) p (c :: cs) (some c) cs
  | anyNL (p c cs) : Matches .anyNL p (c :: cs) (some c) cs
  | any (p c cs) : (c != 10) = true → Matches .any p (c :: cs) (some c) cs
  | bot (p s) : p.isNone = true → Matches .bot p s p s
  | eot (p s) : s.isEmpty = true → Matches .eot p s p s
  | bol (p s) : (p.isNone || p == some 10) = true → Matches .bol p s p s
  | eolNil (p) : Matches .eol p [] p []
  | eolNL (p cs) : Matches .eol p (10 :: cs) p (10 :: cs)
  | cat (a b p s p1 s1 p2 s2) : Matches a p s p1 s1 → Matches b p1 s1 p2 s2 → Matches (.cat a b) p s p2 s2
  | altL (a b p s p' s') : Matches a p s p' s' → Matches (.alt a b) p s p' s'
  | altR (a b p s p' s') : Matches b p s p' s' → Matches (.alt a b) p s p' s'
  | star0 (a p s) : Matches (.star a) p s p s
  | starS (a p s p1 s1 p2 s2) : Matches a p s p1 s1 → s1.length < s.length → Matches (.star a) p1 s1 p2 s2 →
      Matches (.star a) p s p2 s2
  | plus (a p s p1 s1 p2 s2) : Matches a p s p1 s1 → Matches (.star a) p1 s1 p2 s2 → Matches (.plus a) p s p2 s2
  | quest0 (a p s) : Matches (.quest a) p s p s
  | questS (a p s p' s') : Matches a p s p' s' → Matches (.quest a) p s p' s'
  | starL0 (a p s) : Matches (.starL a) p s p s
  | starLS (a p s p1 s1 p2 s2) : Matches a p s p1 s1 → s1.length < s.length → Matches (.starL a) p1 s1 p2 s2 →
      Matches (.starL a) p s p2 s2
  | plusL (a p s p1 s1 p2 s2) : Matches a p s p1 s1 → Matches (.starL a) p1 s1 p2 s2 → Matches (.plusL a) p s p2 s2
  | questL0 (a p s) : Matches (.questL a) p s p s
  | questLS (a p s p' s') : Matches a p s p' s' → Matches (.questL a) p s p' s'

theorem inRanges_iff {c : Rune} {rs : List (Rune × Rune)} : inRanges c rs = true ↔ ∃ r ∈ rs, r.1 ≤ c ∧ c ≤ r.2 := by
  induction rs with
  | nil => simp only [inRanges, List.not_mem_nil, false_and, exists_false, Bool.false_eq_true]
  | cons r rest ih =>
    simp only [inRanges, List.mem_cons, exists_eq_or_imp, Bool.or_eq_true, Bool.and_eq_true, decide_eq_true_eq, ih]

theorem inRanges_nil {c : Rune} : inRanges c [] = false := rfl

theorem inRanges_cons_point {c a : Rune} {rs : List (Rune × Rune)} :
    inRanges c ((a, a) :: rs) = true ↔ c = a ∨ inRanges c rs = true := by
  simp [inRanges, Nat.le_antisymm_iff, and_comm]

theorem orElse_eq_some {α} {a b : Option α} {x : α} (h : (a <|> b) = some x) : a = some x ∨ b = some x := by
  cases a with
  | none => exact .inr (by simpa using h)
  | some y => exact .inl (by simpa using h)

theorem orElse_isSome {α : Type} (x y : Option α) : (x <|> y).isSome = true ↔ x.isSome = true ∨ y.isSome = true := by
  cases x <;> cases y <;> simp

theorem Matches.length_le {r : Re} {p s p' s'} (h : Matches r p s p' s') : s'.length ≤ s.length := by
  induction h with
  | cls | anyNL | any => exact Nat.le_succ _
  | cat _ _ _ _ _ _ _ _ _ _ ih1 ih2 | plus _ _ _ _ _ _ _ _ _ ih1 ih2 | plusL _ _ _ _ _ _ _ _ _ ih1 ih2 =>
    exact Nat.le_trans ih2 ih1
  | starS _ _ _ _ _ _ _ _ hlt _ _ ih2 | starLS _ _ _ _ _ _ _ _ hlt _ _ ih2 => exact Nat.le_trans ih2 (Nat.le_of_lt hlt)
  | altL _ _ _ _ _ _ _ ih | altR _ _ _ _ _ _ _ ih | questS _ _ _ _ _ _ ih | questLS _ _ _ _ _ _ ih => exact ih
  | _ => exact Nat.le_refl _

section inversion
variable {a b : Re} {rs : List (Rune × Rune)} {p p' : Option Rune} {s s' : List Rune}

theorem Matches.cat_iff : Matches (.cat a b) p s p' s' ↔ ∃ p1 s1, Matches a p s p1 s1 ∧ Matches b p1 s1 p' s' :=
  ⟨fun h => by cases h with | cat _ _ _ _ p1 s1 _ _ h1 h2 => exact ⟨p1, s1, h1, h2⟩,
   fun ⟨p1, s1, h1, h2⟩ => .cat _ _ _ _ p1 s1 _ _ h1 h2⟩

theorem Matches.bot_iff : Matches .bot p s p' s' ↔ p = .none ∧ p' = .none ∧ s' = s :=
  ⟨fun h => by cases h with | bot _ _ hp => simpa using hp, fun ⟨hp, hp', hs⟩ => by subst hp hp' hs; exact .bot _ _ rfl⟩

theorem Matches.eot_iff : Matches .eot p s p' s' ↔ s = [] ∧ p' = p ∧ s' = [] :=
  ⟨fun h => by cases h with | eot _ _ hs => simpa using hs, fun ⟨hs, hp, hs'⟩ => by subst hs hp hs'; exact .eot _ _ rfl⟩

theorem Matches.cls_iff : Matches (.cls rs) p s p' s' ↔ ∃ c, s = c :: s' ∧ inRanges c rs = true ∧ p' = some c :=
  ⟨fun h => by cases h with | cls _ _ c _ hin => exact ⟨c, rfl, hin, rfl⟩,
   fun ⟨c, hs, hin, hp⟩ => by subst hs hp; exact .cls _ _ c _ hin⟩

theorem Matches.quest_iff : Matches (.quest a) p s p' s' ↔ (p' = p ∧ s' = s) ∨ Matches a p s p' s' :=
  ⟨fun h => by cases h with | quest0 => exact .inl ⟨rfl, rfl⟩ | questS _ _ _ _ _ h => exact .inr h,
   fun h => by
    rcases h with ⟨hp, hs⟩ | h
    · subst hp hs; exact .quest0 ..
    · exact .questS _ _ _ _ _ h⟩

theorem Matches.plus_iff : Matches (.plus a) p s p' s' ↔ ∃ p1 s1, Matches a p s p1 s1 ∧ Matches (.star a) p1 s1 p' s' :=
  ⟨fun h => by cases h with | plus _ _ _ p1 s1 _ _ h1 h2 => exact ⟨p1, s1, h1, h2⟩,
   fun ⟨p1, s1, h1, h2⟩ => .plus _ _ _ p1 s1 _ _ h1 h2⟩

end inversion

section some
variable {α : Type _} (a : Re)
  (ha : ∀ {p s} {k : Option Rune → List Rune → Option α} {x}, m a p s k = some x →
    ∃ p' s', Matches a p s p' s' ∧ k p' s' = some x)
include ha

theorem starLoop_some : ∀ (fuel : Nat) {p s} {k : Option Rune → List Rune → Option α} {x},
    starLoop (m a) fuel p s k = some x → ∃ p' s', Matches (.star a) p s p' s' ∧ k p' s' = some x
  | 0, p, s, _, _, h => ⟨p, s, .star0 a p s, h⟩
  | fuel + 1, p, s, k, x, h => by
    rcases orElse_eq_some h with h | h
    · obtain ⟨p1, s1, h1, hk⟩ := ha h
      split at hk
      · obtain ⟨p2, s2, h2, hk2⟩ := starLoop_some fuel hk
        exact ⟨p2, s2, .starS a p s p1 s1 p2 s2 h1 ‹_› h2, hk2⟩
      · cases hk
    · exact ⟨p, s, .star0 a p s, h⟩

theorem starLoopL_some : ∀ (fuel : Nat) {p s} {k : Option Rune → List Rune → Option α} {x},
    starLoopL (m a) fuel p s k = some x → ∃ p' s', Matches (.starL a) p s p' s' ∧ k p' s' = some x
  | 0, p, s, _, _, h => ⟨p, s, .starL0 a p s, h⟩
  | fuel + 1, p, s, k, x, h => by
    rcases orElse_eq_some h with h | h
    · exact ⟨p, s, .starL0 a p s, h⟩
    · obtain ⟨p1, s1, h1, hk⟩ := ha h
      split at hk
      · obtain ⟨p2, s2, h2, hk2⟩ := starLoopL_some fuel hk
        exact ⟨p2, s2, .starLS a p s p1 s1 p2 s2 h1 ‹_› h2, hk2⟩
      · cases hk
end some

theorem m_some {α : Type _} : ∀ (r : Re) {p s} {k : Option Rune → List Rune → Option α} {x},
    m r p s k = some x → ∃ p' s', Matches r p s p' s' ∧ k p' s' = some x := by
  intro r
  induction r with
  | empty => intro p s k x h; exact ⟨p, s, .empty p s, h⟩
  | none => intro p s k x h; cases h
  | cls rs | any =>
    intro p s k x h
    cases s with
    | nil => cases h
    | cons c cs =>
      simp only [m, Option.ite_none_right_eq_some] at h
      exact ⟨some c, cs, by constructor; exact h.1, h.2⟩
  | anyNL =>
    intro p s k x h
    cases s with
    | nil => cases h
    | cons c cs => exact ⟨some c, cs, .anyNL p c cs, h⟩
  | bot | eot | bol =>
    intro p s k x h
    simp only [m, Option.ite_none_right_eq_some] at h
    exact ⟨p, s, by constructor; exact h.1, h.2⟩
  | eol =>
    intro p s k x h
    cases s with
    | nil => exact ⟨p, [], .eolNil p, h⟩
    | cons c cs =>
      simp only [m, Option.ite_none_right_eq_some, beq_iff_eq] at h
      obtain ⟨rfl, h⟩ := h
      exact ⟨p, 10 :: cs, .eolNL p cs, h⟩
  | cat a b iha ihb =>
    intro p s k x h
    obtain ⟨p1, s1, h1, hk⟩ := iha h
    obtain ⟨p2, s2, h2, hk2⟩ := ihb hk
    exact ⟨p2, s2, .cat a b p s p1 s1 p2 s2 h1 h2, hk2⟩
  | alt a b iha ihb =>
    intro p s k x h
    rcases orElse_eq_some h with h | h
    · obtain ⟨p', s', h1, hk⟩ := iha h; exact ⟨p', s', .altL a b p s p' s' h1, hk⟩
    · obtain ⟨p', s', h1, hk⟩ := ihb h; exact ⟨p', s', .altR a b p s p' s' h1, hk⟩
  | star a iha => intro p s k x h; exact starLoop_some a iha _ h
  | plus a iha =>
    intro p s k x h
    obtain ⟨p1, s1, h1, hk⟩ := iha h
    obtain ⟨p2, s2, h2, hk2⟩ := starLoop_some a iha _ hk
    exact ⟨p2, s2, .plus a p s p1 s1 p2 s2 h1 h2, hk2⟩
  | quest a iha =>
    intro p s k x h
    rcases orElse_eq_some h with h | h
    · obtain ⟨p', s', h1, hk⟩ := iha h; exact ⟨p', s', .questS a p s p' s' h1, hk⟩
    · exact ⟨p, s, .quest0 a p s, h⟩
  | starL a iha => intro p s k x h; exact starLoopL_some a iha _ h
  | plusL a iha =>
    intro p s k x h
    obtain ⟨p1, s1, h1, hk⟩ := iha h
    obtain ⟨p2, s2, h2, hk2⟩ := starLoopL_some a iha _ hk
    exact ⟨p2, s2, .plusL a p s p1 s1 p2 s2 h1 h2, hk2⟩
  | questL a iha =>
    intro p s k x h
    rcases orElse_eq_some h with h | h
    · exact ⟨p, s, .questL0 a p s, h⟩
    · obtain ⟨p', s', h1, hk⟩ := iha h; exact ⟨p', s', .questLS a p s p' s' h1, hk⟩

section complete
variable {α : Type} (a : Re)
  (ha : ∀ {p s p' s'} (k : Option Rune → List Rune → Option α), Matches a p s p' s' → (k p' s').isSome = true →
    (m a p s k).isSome = true)
include ha

theorem starLoop_complete : ∀ (fuel : Nat) {p s p' s'} (k : Option Rune → List Rune → Option α), s.length < fuel →
    Matches (.star a) p s p' s' → (k p' s').isSome = true → (starLoop (m a) fuel p s k).isSome = true
  | 0, _, _, _, _, _, hf, _, _ => absurd hf (Nat.not_lt_zero _)
  | fuel + 1, p, s, p', s', k, hf, hm, hk => by
    rw [starLoop, orElse_isSome]
    cases hm with
    | star0 => exact .inr hk
    | starS _ _ _ p1 s1 _ _ h1 hlt hrest =>
      refine .inl (ha _ h1 ?_)
      rw [if_pos hlt]
      exact starLoop_complete fuel k (Nat.lt_of_lt_of_le hlt (Nat.le_of_lt_succ hf)) hrest hk

theorem starLoopL_complete : ∀ (fuel : Nat) {p s p' s'} (k : Option Rune → List Rune → Option α), s.length < fuel →
    Matches (.starL a) p s p' s' → (k p' s').isSome = true → (starLoopL (m a) fuel p s k).isSome = true
  | 0, _, _, _, _, _, hf, _, _ => absurd hf (Nat.not_lt_zero _)
  | fuel + 1, p, s, p', s', k, hf, hm, hk => by
    rw [starLoopL, orElse_isSome]
    cases hm with
    | starL0 => exact .inl hk
    | starLS _ _ _ p1 s1 _ _ h1 hlt hrest =>
      refine .inr (ha _ h1 ?_)
      rw [if_pos hlt]
      exact starLoopL_complete fuel k (Nat.lt_of_lt_of_le hlt (Nat.le_of_lt_succ hf)) hrest hk
end complete

theorem m_complete {α : Type} : ∀ (r : Re) {p s p' s'} (k : Option Rune → List Rune → Option α),
    Matches r p s p' s' → (k p' s').isSome = true → (m r p s k).isSome = true := by
  intro r
  induction r with
  | cat a b iha ihb =>
    intro p s p' s' k hm hk
    obtain ⟨p1, s1, h1, h2⟩ := Matches.cat_iff.mp hm
    exact iha _ h1 (ihb k h2 hk)
  | alt a b iha ihb =>
    intro p s p' s' k hm hk
    rw [m, orElse_isSome]
    cases hm with
    | altL _ _ _ _ _ _ h => exact .inl (iha k h hk)
    | altR _ _ _ _ _ _ h => exact .inr (ihb k h hk)
  | star a iha => intro p s p' s' k hm hk; exact starLoop_complete a iha _ k (Nat.lt_succ_self _) hm hk
  | plus a iha =>
    intro p s p' s' k hm hk
    obtain ⟨p1, s1, h1, h2⟩ := Matches.plus_iff.mp hm
    exact iha _ h1 (starLoop_complete a iha _ k (Nat.lt_succ_of_le h1.length_le) h2 hk)
  | quest a iha =>
    intro p s p' s' k hm hk
    rw [m, orElse_isSome]
    rcases Matches.quest_iff.mp hm with ⟨rfl, rfl⟩ | h
    · exact .inr hk
    · exact .inl (iha k h hk)
  | starL a iha => intro p s p' s' k hm hk; exact starLoopL_complete a iha _ k (Nat.lt_succ_self _) hm hk
  | plusL a iha =>
    intro p s p' s' k hm hk
    cases hm with
    | plusL _ _ _ p1 s1 _ _ h1 h2 =>
      exact iha _ h1 (starLoopL_complete a iha _ k (Nat.lt_succ_of_le h1.length_le) h2 hk)
  | questL a iha =>
    intro p s p' s' k hm hk
    rw [m, orElse_isSome]
    cases hm with
    | questL0 => exact .inl hk
    | questLS _ _ _ _ _ h => exact .inr (iha k h hk)
  -- the leaves: `m` tests exactly the side condition of the one rule
  | empty | anyNL | eol => intro p s p' s' k hm hk; cases hm <;> exact hk
  | none => intro p s p' s' k hm; cases hm
  | cls rs | any | bot | eot | bol => intro p s p' s' k hm hk; cases hm; rw [m, if_pos ‹_›]; exact hk

theorem m_adequate {α : Type} : ∀ (r : Re) (p : Option Rune) (s : List Rune) (k : Option Rune → List Rune → Option α),
    (m r p s k).isSome = true ↔ ∃ p' s', Matches r p s p' s' ∧ (k p' s').isSome = true := by
  intro r p s k
  constructor
  · intro h
    obtain ⟨x, hx⟩ := Option.isSome_iff_exists.mp h
    obtain ⟨p', s', hm, hk⟩ := m_some r hx
    exact ⟨p', s', hm, by rw [hk]; rfl⟩
  · rintro ⟨p', s', hm, hk⟩
    exact m_complete r k hm hk

theorem matchesAt_iff (r : Re) (p : Option Rune) (s : List Rune) :
    matchesAt r p s = true ↔ ∃ p' s', Matches r p s p' s' := by
  unfold matchesAt
  rw [m_adequate]
  simp

theorem fullMatch_iff (r : Re) (s : List Rune) : fullMatch r s = true ↔ ∃ p', Matches r .none s p' [] := by
  unfold fullMatch
  rw [m_adequate]
  constructor
  · rintro ⟨p', s', hm, hk⟩
    split at hk
    · rename_i he
      rw [List.isEmpty_iff.mp he] at hm
      exact ⟨p', hm⟩
    · cases hk
  · rintro ⟨p', hm⟩
    exact ⟨p', [], hm, by simp⟩

def prevAt (s : List Rune) (i : Nat) : Option Rune := if i = 0 then .none else s[i - 1]?

/-- `searchFrom r p s` succeeds exactly when `r` matches behind some prefix `pre` of `s`, the previous rune being `p`
    if `pre` is empty and the last of `pre` otherwise.  (`MatchString` is `Re.search`, which is `searchFrom r none` on
    the decoded runes.) -/
theorem searchFrom_iff (r : Re) : ∀ (s : List Rune) (p : Option Rune),
    searchFrom r p s = true ↔
      ∃ (pre post : List Rune) (p0 p' : Option Rune) (s' : List Rune), s = pre ++ post ∧
        p0 = (if pre.isEmpty then p else pre.getLast?) ∧ Matches r p0 post p' s' := by
  intro s
  induction s with
  | nil =>
    intro p
    simp only [searchFrom, matchesAt_iff]
    constructor
    · rintro ⟨p', s', hm⟩
      exact ⟨[], [], p, p', s', rfl, rfl, hm⟩
    · rintro ⟨pre, post, _, p', s', hs, rfl, hm⟩
      obtain ⟨rfl, rfl⟩ := List.nil_eq_append_iff.mp hs
      exact ⟨p', s', hm⟩
  | cons c cs ih =>
    intro p
    -- a prefix `c :: pre` ends in the rune a prefix `pre` of the tail ends in, or in `c`
    have hlast : ∀ pre : List Rune, (c :: pre).getLast? = if pre.isEmpty then some c else pre.getLast? := by
      intro pre; cases pre <;> simp [List.getLast?_cons_cons]
    simp only [searchFrom, Bool.or_eq_true, matchesAt_iff, ih]
    constructor
    · rintro (⟨p', s', hm⟩ | ⟨pre, post, _, p', s', rfl, rfl, hm⟩)
      · exact ⟨[], c :: cs, p, p', s', rfl, rfl, hm⟩
      · exact ⟨c :: pre, post, _, p', s', rfl, (hlast pre).symm, hm⟩
    · rintro ⟨pre, post, _, p', s', hs, rfl, hm⟩
      cases pre with
      | nil => subst hs; exact .inl ⟨p', s', hm⟩
      | cons x xs =>
        obtain ⟨rfl, rfl⟩ := List.cons.inj hs
        exact .inr ⟨xs, post, _, p', s', rfl, hlast xs, hm⟩

/-! ### `^ … $`: matching against the whole value

  For an expression of the shape `^ … $` (`anchoredBoth`, decided on the regenerated syntax trees of the
  exported matchers and of those css regexps that have it), `MatchString` is true exactly when the
  expression matches — in the declarative relation — from the start of the string to its end.  No proper
  substring can be what was matched. -/

/-- the expression ends with `$` (end of text) on its right spine -/
def endsEot : Re → Bool
  | eot => true
  | cat _ b => endsEot b
  | _ => false

/-- `^ … $` -/
def anchoredBoth : Re → Bool
  | cat bot rest => endsEot rest
  | _ => false

theorem Matches.endsEot {r : Re} {p s p' s'} (h : Matches r p s p' s') (he : endsEot r = true) : s' = [] := by
  induction h with
  | eot p s hs => simpa using hs
  | cat a b p s p1 s1 p2 s2 _ _ _ ih2 => exact ih2 (by simpa [Re.endsEot] using he)
  | _ => simp [Re.endsEot] at he

/-- a search with a `^…` expression can only match at the very start -/
theorem searchFrom_bot (rest : Re) (c : Rune) (s : List Rune) : searchFrom (cat bot rest) (some c) s = false := by
  induction s generalizing c with
  | nil => rfl
  | cons d ds ih => simp only [searchFrom, ih, Bool.or_false]; rfl

/-- a `^ …` expression is searched for at the start only -/
theorem search_bot (rest : Re) (s : List Rune) :
    search (cat bot rest) s = true ↔ ∃ p' s', Matches (cat bot rest) .none s p' s' := by
  have h0 : search (cat bot rest) s = matchesAt (cat bot rest) .none s := by
    cases s with
    | nil => rfl
    | cons c cs => simp only [search, searchFrom, searchFrom_bot, Bool.or_false]
  rw [h0, matchesAt_iff]

theorem search_anchored (r : Re) (ha : anchoredBoth r = true) (s : List Rune) :
    search r s = true ↔ ∃ p', Matches r .none s p' [] := by
  unfold anchoredBoth at ha
  split at ha
  · rename_i rest
    rw [search_bot]
    exact ⟨fun ⟨p', s', hm⟩ => ⟨p', hm.endsEot ha ▸ hm⟩, fun ⟨p', hm⟩ => ⟨p', [], hm⟩⟩
  · cases ha

end BM.Re
