import BM.Golite
import BM.Proofs.Utf8Decode
import BM.Unicode
import BM.Css
import BM.Proofs.RecCheck
/-
  Bytes that matter to C18 and the string functions of css/handlers.go: the seven *hostile* bytes
  (backslash, `<`, `>`, `@`, `;`, `{`, `}`) survive `strings.ToLower`, `strings.TrimSpace`, `strings.Split`,
  `multiSplit` and `splitValues` — so a list of pieces without hostile bytes comes from a value
  without hostile bytes.  (They are ASCII, so each is a rune of its own when a string is decoded for a
  regexp: `ascii_mem_decodeRunes` in Proofs/Utf8Decode.)
-/
namespace BM

def hostile (c : UInt8) : Bool := c == 92 || c == 60 || c == 62 || c == 64 || c == 59 || c == 123 || c == 125

def Clean (s : Bytes) : Prop := ∀ c ∈ s, hostile c = false
def CleanL (l : List Bytes) : Prop := ∀ s ∈ l, Clean s

theorem hostile_cases {c : UInt8} (h : hostile c = true) :
    c = 92 ∨ c = 60 ∨ c = 62 ∨ c = 64 ∨ c = 59 ∨ c = 123 ∨ c = 125 := by
  simpa only [hostile, Bool.or_eq_true, beq_iff_eq, or_assoc] using h

theorem hostile_ascii {c : UInt8} (h : hostile c = true) : c.toNat < 0x80 := by
  rcases hostile_cases h with h | h | h | h | h | h | h <;> subst h <;> decide

theorem clean_append {a b : Bytes} : Clean (a ++ b) ↔ Clean a ∧ Clean b := by
  unfold Clean
  constructor
  · intro h; exact ⟨fun c hc => h c (List.mem_append_left _ hc), fun c hc => h c (List.mem_append_right _ hc)⟩
  · rintro ⟨h1, h2⟩ c hc
    rcases List.mem_append.mp hc with h | h
    · exact h1 c h
    · exact h2 c h

theorem clean_nil : Clean [] := fun _ h => nomatch h

/-- every hostile byte of `s` is a byte of `t`: what `strings.ToLower`, `strings.TrimSpace`, … do to a string -/
def Keeps (s t : Bytes) : Prop := ∀ c ∈ s, hostile c = true → c ∈ t

theorem Keeps.clean {s t : Bytes} (h : Keeps s t) (ht : Clean t) : Clean s :=
  fun c hc => Bool.eq_false_iff.mpr fun hh => Bool.eq_false_iff.mp (ht c (h c hc hh)) hh

theorem Keeps.trans {s t u : Bytes} (h1 : Keeps s t) (h2 : Keeps t u) : Keeps s u :=
  fun c hc hh => h2 c (h1 c hc hh) hh

/-- a hostile byte is its own lower case, as a byte and as a rune, and its own UTF-8 encoding -/
theorem hostile_lower {c : UInt8} (h : hostile c = true) :
    lowerByte c = c ∧ runeToLower c.toNat = c.toNat ∧ encodeRune c.toNat = [c] := by
  rcases hostile_cases h with h | h | h | h | h | h | h <;> subst h <;> decide

theorem toLowerGo_keeps (s : Bytes) (c : UInt8) (hc : c ∈ s) (h : hostile c = true) : c ∈ toLowerGo s := by
  obtain ⟨h1, h2, h3⟩ := hostile_lower h
  unfold toLowerGo
  split
  · unfold lowerAscii
    exact List.mem_map.mpr ⟨c, hc, h1⟩
  · unfold encodeRunes
    rw [List.mem_flatMap]
    refine ⟨c.toNat, ?_, by rw [h3]; simp⟩
    rw [List.mem_map]
    exact ⟨c.toNat, ascii_mem_decodeRunes s c hc (hostile_ascii h), h2⟩

theorem hostile_not_space {c : UInt8} (h : hostile c = true) : Css.isUniSpace c.toNat = false := by
  rcases hostile_cases h with h | h | h | h | h | h | h <;> subst h <;> decide

theorem space_step_clean (b0 : UInt8) (rest : Bytes) (hsp : Css.isUniSpace (decodeRune (b0 :: rest)).1 = true) :
    ∀ c ∈ (b0 :: rest).take (decodeRune (b0 :: rest)).2, hostile c = false := by
  intro c hc
  refine Bool.eq_false_iff.mpr fun hh => ?_
  rw [(decodeRune_step_ascii hc (hostile_ascii hh)).2, hostile_not_space hh] at hsp
  cases hsp

theorem trimLeftSpace_cons (n : Nat) (b0 : UInt8) (rest : Bytes) :
    Css.trimLeftSpace (n + 1) (b0 :: rest) =
      if Css.isUniSpace (decodeRune (b0 :: rest)).1 then Css.trimLeftSpace n ((b0 :: rest).drop (decodeRune (b0 :: rest)).2)
      else b0 :: rest := rfl

theorem trimRightSpaceAux_cons (n : Nat) (b0 : UInt8) (rest : Bytes) :
    Css.trimRightSpaceAux (n + 1) (b0 :: rest) =
      if (Css.trimRightSpaceAux n ((b0 :: rest).drop (decodeRune (b0 :: rest)).2)).2 && Css.isUniSpace (decodeRune (b0 :: rest)).1
      then ([], true)
      else ((b0 :: rest).take (decodeRune (b0 :: rest)).2 ++ (Css.trimRightSpaceAux n ((b0 :: rest).drop (decodeRune (b0 :: rest)).2)).1, false) := rfl

theorem trimLeftSpace_keeps : ∀ (n : Nat) (s : Bytes), Keeps s (Css.trimLeftSpace n s) := by
  intro n
  induction n with
  | zero => intro s c hc _; exact hc
  | succ n ih =>
    intro s c hc hh
    cases s with
    | nil => simp at hc
    | cons b0 rest =>
      rw [trimLeftSpace_cons]
      split
      · rename_i hsp
        apply ih _ _ _ hh
        have hsplit := List.take_append_drop (decodeRune (b0 :: rest)).2 (b0 :: rest)
        rw [← hsplit] at hc
        rcases List.mem_append.mp hc with hc' | hc'
        · exact absurd hh (Bool.eq_false_iff.mp (space_step_clean b0 rest hsp c hc'))
        · exact hc'
      · exact hc

theorem trimRightSpaceAux_keeps : ∀ (n : Nat) (s : Bytes),
    ((Css.trimRightSpaceAux n s).2 = true → ∀ c ∈ s, hostile c = false) ∧
    Keeps s (Css.trimRightSpaceAux n s).1 := by
  intro n
  induction n with
  | zero => intro s; exact ⟨fun h => (by cases h), fun c hc _ => hc⟩
  | succ n ih =>
    intro s
    cases s with
    | nil => exact ⟨fun _ c hc => (by simp at hc), fun c hc _ => (by simp at hc)⟩
    | cons b0 rest =>
      rw [trimRightSpaceAux_cons]
      obtain ⟨i1, i2⟩ := ih ((b0 :: rest).drop (decodeRune (b0 :: rest)).2)
      have hsplit := List.take_append_drop (decodeRune (b0 :: rest)).2 (b0 :: rest)
      split
      · rename_i hcond
        simp only [Bool.and_eq_true] at hcond
        have hclean : ∀ c ∈ b0 :: rest, hostile c = false := by
          intro c hc
          rw [← hsplit] at hc
          rcases List.mem_append.mp hc with hc' | hc'
          · exact space_step_clean b0 rest hcond.2 c hc'
          · exact i1 hcond.1 c hc'
        refine ⟨fun _ => hclean, ?_⟩
        exact fun c hc hh => absurd hh (Bool.eq_false_iff.mp (hclean c hc))
      · refine ⟨fun h => (by cases h), ?_⟩
        intro c hc hh
        rw [← hsplit] at hc
        simp only [List.mem_append]
        rcases List.mem_append.mp hc with hc' | hc'
        · exact .inl hc'
        · exact .inr (i2 c hc' hh)

theorem trimSpace_keeps (s : Bytes) (c : UInt8) (hc : c ∈ s) (h : hostile c = true) : c ∈ Css.trimSpace s := by
  unfold Css.trimSpace
  exact (trimRightSpaceAux_keeps _ _).2 c (trimLeftSpace_keeps _ s c hc h) h

open Golite

theorem splitOnAux_cons_some (sep : Bytes) (fuel : Nat) (c : UInt8) (cs cur rest : Bytes)
    (h : stripPrefix? sep (c :: cs) = some rest) :
    splitOnAux sep (fuel + 1) (c :: cs) cur =
      if sep.isEmpty then [cur.reverse] else cur.reverse :: splitOnAux sep fuel rest [] := by
  rw [splitOnAux]; simp only [h]

theorem splitOnAux_cons_none (sep : Bytes) (fuel : Nat) (c : UInt8) (cs cur : Bytes)
    (h : stripPrefix? sep (c :: cs) = none) :
    splitOnAux sep (fuel + 1) (c :: cs) cur = splitOnAux sep fuel cs (c :: cur) := by
  rw [splitOnAux]; simp only [h]

theorem splitOnAux_covers (sep : Bytes) (hsep : sep ≠ []) : ∀ (fuel : Nat) (s cur : Bytes), s.length < fuel →
    ∀ c, (c ∈ cur ∨ c ∈ s) → c ∈ sep ∨ ∃ p ∈ splitOnAux sep fuel s cur, c ∈ p := by
  intro fuel
  induction fuel with
  | zero => intro s cur h; omega
  | succ fuel ih =>
    intro s cur hlen c hc
    cases s with
    | nil =>
      right
      refine ⟨cur.reverse, by simp [splitOnAux], ?_⟩
      rcases hc with h | h
      · simpa using h
      · simp at h
    | cons c0 cs =>
      cases hsp : stripPrefix? sep (c0 :: cs) with
      | some rest =>
        rw [splitOnAux_cons_some sep fuel c0 cs cur rest hsp]
        have hne : sep.isEmpty = false := by cases sep <;> simp_all
        simp only [hne, Bool.false_eq_true, ↓reduceIte]
        have heq := stripPrefix?_eq sep (c0 :: cs) rest hsp
        rcases hc with h | h
        · exact .inr ⟨cur.reverse, by simp, by simpa using h⟩
        · rw [heq] at h
          rcases List.mem_append.mp h with h | h
          · exact .inl h
          · have hl : rest.length < fuel := by
              have := congrArg List.length heq
              simp only [List.length_cons, List.length_append] at this hlen
              have : 0 < sep.length := List.length_pos_iff.mpr hsep
              omega
            rcases ih rest [] hl c (.inr h) with h' | ⟨p, hp, hcp⟩
            · exact .inl h'
            · exact .inr ⟨p, List.mem_cons_of_mem _ hp, hcp⟩
      | none =>
        rw [splitOnAux_cons_none sep fuel c0 cs cur hsp]
        apply ih cs (c0 :: cur) (by simp at hlen; omega)
        rcases hc with h | h
        · exact .inl (List.mem_cons_of_mem _ h)
        · rcases List.mem_cons.mp h with rfl | h
          · exact .inl List.mem_cons_self
          · exact .inr h

theorem splitOn_covers (s sep : Bytes) (hsep : sep ≠ []) (c : UInt8) (hc : c ∈ s) :
    c ∈ sep ∨ ∃ p ∈ splitOn s sep, c ∈ p :=
  splitOnAux_covers sep hsep (s.length + 1) s [] (by omega) c (.inr hc)

theorem clean_of_splitOn (s sep : Bytes) (hsep : sep ≠ []) (hcs : Clean sep) (h : CleanL (splitOn s sep)) : Clean s := by
  intro c hc
  rcases splitOn_covers s sep hsep c hc with h1 | ⟨p, hp, hcp⟩
  · exact hcs c h1
  · exact h p hp c hcp

theorem clean_of_multiSplit (value : Bytes) (seps : List Bytes) (hseps : ∀ sep ∈ seps, sep ≠ [] ∧ Clean sep)
    (h : CleanL (multiSplit value seps)) : Clean value := by
  unfold multiSplit at h
  have key : ∀ (seps : List Bytes) (cur : List Bytes), (∀ sep ∈ seps, sep ≠ [] ∧ Clean sep) →
      CleanL (seps.foldl (fun cur sep => cur.flatMap fun j => splitOn j sep) cur) → CleanL cur := by
    intro seps
    induction seps with
    | nil => intro cur _ h; exact h
    | cons sep rest ih =>
      intro cur hs h
      simp only [List.foldl_cons] at h
      have h1 := ih _ (fun x hx => hs x (List.mem_cons_of_mem _ hx)) h
      intro j hj
      apply clean_of_splitOn j sep (hs sep List.mem_cons_self).1 (hs sep List.mem_cons_self).2
      intro p hp
      exact h1 p (List.mem_flatMap.mpr ⟨j, hj, hp⟩)
  exact key seps [value] hseps h value (by simp)

/-- `splitValues` with any lower-casing that keeps the hostile bytes -/
theorem clean_of_splitValues_of (lower : Bytes → Bytes) (hl : ∀ s, Keeps s (lower s)) (value : Bytes)
    (h : CleanL (splitValues lower value)) : Clean value := by
  apply clean_of_splitOn value [44] (List.cons_ne_nil _ _) (by intro c hc; cases List.mem_singleton.mp hc; decide)
  intro p hp
  exact (Keeps.trans (trimSpace_keeps p) (hl _)).clean (h _ (List.mem_map.mpr ⟨p, hp, rfl⟩))

theorem clean_of_splitValues (value : Bytes) (h : CleanL (splitValues toLowerGo value)) : Clean value :=
  clean_of_splitValues_of toLowerGo toLowerGo_keeps value h

theorem clean_of_trimSuffix (s suf : Bytes) (hsuf : Clean suf) (h : Clean (trimSuffix s suf)) : Clean s := by
  unfold trimSuffix at h
  split at h
  · rename_i hs
    unfold hasSuffix hasPrefix at hs
    cases hst : stripPrefix? suf.reverse s.reverse with
    | none => rw [hst] at hs; cases hs
    | some rest =>
      have heq := stripPrefix?_eq _ _ _ hst
      have hs' : s = rest.reverse ++ suf := by
        have := congrArg List.reverse heq
        simpa using this
      rw [hs'] at h ⊢
      have : (rest.reverse ++ suf).length - suf.length = rest.reverse.length := by simp
      rw [this, List.take_left'] at h
      · exact clean_append.mpr ⟨h, hsuf⟩
      · rfl
  · exact h

theorem cleanL_of_inList (a b : List Bytes) (h : inList a b = true) (hb : CleanL b) : CleanL a := by
  unfold inList at h
  intro s hs
  have := List.all_eq_true.mp h s hs
  exact hb s (List.contains_iff_mem.mp this)

theorem mem_joinBytes (sep : Bytes) : ∀ (g : List Bytes) (x : Bytes), x ∈ g → ∀ c ∈ x, c ∈ joinBytes sep g
  | [], x, h, _, _ => by simp at h
  | [y], x, h, c, hc => by simp at h; subst h; simpa [joinBytes] using hc
  | y :: z :: rest, x, h, c, hc => by
    simp only [joinBytes, List.mem_append]
    rcases List.mem_cons.mp h with rfl | h
    · exact .inl (.inl hc)
    · exact .inr (mem_joinBytes sep (z :: rest) x h c hc)

theorem cleanL_of_split (acc : Bytes → Bool) (hacc : ∀ g, acc g = true → Clean g) (vals : List Bytes)
    (h : Split acc vals) : CleanL vals := by
  induction h with
  | last g _ hg =>
    intro x hx c hc
    exact hacc _ hg c (mem_joinBytes [32] g x hx c hc)
  | cons g rest _ _ hg _ ih =>
    intro x hx
    rcases List.mem_append.mp hx with hx | hx
    · intro c hc; exact hacc _ hg c (mem_joinBytes [32] g x hx c hc)
    · exact ih x hx

theorem cleanL_of_recursiveCheck (fs : List (Bytes → Bool)) (hfs : ∀ f ∈ fs, ∀ g, f g = true → Clean g)
    (vals : List Bytes) (h : (recursiveCheck fs vals).1 = true) : CleanL vals := by
  apply cleanL_of_split (fun g => fs.any (· g)) _ vals ((recursiveCheck_iff fs vals).mp h)
  intro g hg
  simp only [List.any_eq_true] at hg
  obtain ⟨f, hf, hfg⟩ := hg
  exact hfs f hf g hfg

end BM
