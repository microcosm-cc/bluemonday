import BM.Proofs.Builder
/-
  The switch-like options of a policy as a small state machine (C17).  `Switches` (Proofs/Builder) collects the
  fields a builder call sets rather than extends; `BuilderOp.setSwitches` is what one call does to
  them.  `switches_applyOps` is a refinement: for every history on an initialised policy the
  switches of the built policy are the switches of the start run through that machine — the rule
  tables never feed back into them.  "Each option reflects its most recent setting" is then read
  off the machine (`lastSetting`).
-/
namespace BM

def BuilderOp.setSwitches (op : BuilderOp) (s : Switches) : Switches :=
  match op with
  | .allowDataAttributes => { s with allowDataAttributes := true }
  | .allowComments => { s with allowComments := true }
  | .rewriteSrc f => { s with srcRewriter := some f }
  | .requireNoFollowOnLinks b => { s with requireNoFollow := b, requireParseableURLs := true }
  | .requireNoFollowOnFullyQualifiedLinks b =>
    { s with requireNoFollowFullyQualifiedLinks := b, requireParseableURLs := true }
  | .requireNoReferrerOnLinks b => { s with requireNoReferrer := b, requireParseableURLs := true }
  | .requireNoReferrerOnFullyQualifiedLinks b =>
    { s with requireNoReferrerFullyQualifiedLinks := b, requireParseableURLs := true }
  | .requireCrossOriginAnonymous b => { s with requireCrossOriginAnonymous := b }
  | .addTargetBlankToFullyQualifiedLinks b =>
    { s with addTargetBlankToFullyQualifiedLinks := b, requireParseableURLs := true }
  | .requireParseableURLs b => { s with requireParseableURLs := b }
  | .allowRelativeURLs b => { s with requireParseableURLs := true, allowRelativeURLs := b }
  | .allowURLSchemes _ => { s with requireParseableURLs := true }
  | .allowURLSchemeWithCustomPolicy _ _ => { s with requireParseableURLs := true }
  | .requireSandboxOnIFrame vals => { s with requireSandboxOnIFrame := some vals }
  | .addSpaceWhenStrippingTag b => { s with addSpaces := b }
  | .allowUnsafe b => { s with allowUnsafe := b }
  | _ => s

theorem switches_applyOpInit (d : Bytes → Bytes → Bool) (p : Policy) (op : BuilderOp) :
    (applyOpInit d p op).switches = op.setSwitches p.switches := by
  cases op
  case' allowAttrs names re ae scope => cases scope
  case' allowStyles names m scope => cases scope
  case allowURLSchemes schemes =>
    refine foldl_inv _ (fun q : Policy => q.switches = { p.switches with requireParseableURLs := true })
      (fun _ _ hb => ?_) schemes _ rfl
    exact hb
  -- a switch call is one record update; a call that fills a table leaves the switches alone
  all_goals first | rfl | exact (applyOpInit_frame d p _).switches rfl

/-- one call on any policy, initialised or not: `init()` touches no switch -/
theorem switches_applyOp (d : Bytes → Bytes → Bool) (p : Policy) (op : BuilderOp) :
    (applyOp d p op).switches = op.setSwitches p.switches := by
  unfold applyOp
  rw [switches_applyOpInit]
  split
  · rw [ensureInit_switches]
  · rfl

theorem switches_applyOps_any (d : Bytes → Bytes → Bool) (p : Policy) (ops : List BuilderOp) :
    (applyOps d p ops).switches = ops.foldl (fun s op => op.setSwitches s) p.switches :=
  foldl_refine (applyOp d) Policy.switches (fun op s => op.setSwitches s) (switches_applyOp d) ops p

theorem switches_applyOps (d : Bytes → Bytes → Bool) (p : Policy) (hi : p.initialized = true) (ops : List BuilderOp) :
    (applyOps d p ops).switches = ops.foldl (fun s op => op.setSwitches s) p.switches :=
  switches_applyOps_any d p ops

theorem lastSetting {γ : Type} (get : Switches → γ) (eff : BuilderOp → Option γ)
    (h : ∀ op s, get (op.setSwitches s) = (eff op).getD (get s)) (ops : List BuilderOp) (s : Switches) :
    get (ops.foldl (fun s op => op.setSwitches s) s) = (ops.reverse.findSome? eff).getD (get s) :=
  foldl_last _ get eff (fun s op => h op s) ops s

def Policy.skips (p : Policy) (el : Bytes) : Bool := p.setOfElementsToSkipContent.contains el

def BuilderOp.setsSkip (el : Bytes) : BuilderOp → Option Bool
  | .skipElementsContent names => if (names.map toLowerName).contains el then some true else none
  | .allowElementsContent names => if (names.map toLowerName).contains el then some false else none
  | _ => none

theorem skips_skipFold (names : List Bytes) (p : Policy) (el : Bytes) :
    (names.foldl (fun (p : Policy) e =>
      { p with setOfElementsToSkipContent := setInsert p.setOfElementsToSkipContent (toLowerName e) }) p).skips el =
    (p.skips el || (names.map toLowerName).contains el) := by
  rw [Bool.eq_iff_iff, Bool.or_eq_true, List.contains_iff_mem, List.mem_map]
  exact foldl_iff _ (fun p : Policy => p.skips el = true) (fun e => toLowerName e = el)
    (fun b a => by simp only [Policy.skips, List.contains_iff_mem, mem_setInsert]) names p

theorem skips_allowFold (names : List Bytes) (p : Policy) (el : Bytes) :
    (names.foldl (fun (p : Policy) e =>
      { p with setOfElementsToSkipContent := p.setOfElementsToSkipContent.filter (· != toLowerName e) }) p).skips el =
    (p.skips el && !(names.map toLowerName).contains el) := by
  induction names generalizing p with
  | nil => simp only [List.foldl_nil, List.map_nil, List.contains_nil, Bool.not_false, Bool.and_true]
  | cons n ns ih =>
    rw [List.foldl_cons, ih, Bool.eq_iff_iff]
    simp only [Bool.and_eq_true, Policy.skips, List.contains_iff_mem, List.mem_filter, bne_iff_ne, ne_eq, List.map_cons, List.contains_cons,
      Bool.not_or, Bool.not_eq_true', beq_eq_false_iff_ne, and_assoc]

theorem skips_applyOpInit (d : Bytes → Bytes → Bool) (p : Policy) (op : BuilderOp) (el : Bytes) :
    (applyOpInit d p op).skips el = (op.setsSkip el).getD (p.skips el) := by
  cases op
  case' allowAttrs names re ae scope => cases scope
  case' allowStyles names m scope => cases scope
  case skipElementsContent names =>
    simp only [applyOpInit, BuilderOp.setsSkip, skips_skipFold]
    cases (names.map toLowerName).contains el <;> simp
  case allowElementsContent names =>
    simp only [applyOpInit, BuilderOp.setsSkip, skips_allowFold]
    cases (names.map toLowerName).contains el <;> simp
  -- no other call writes the skip set, or says anything about `el`
  all_goals
    refine congrArg (·.contains el) ((applyOpInit_frame d p _).setOfElementsToSkipContent ?_)
    rfl

theorem skips_applyOps (d : Bytes → Bytes → Bool) (p : Policy) (hi : p.initialized = true) (ops : List BuilderOp) (el : Bytes) :
    (applyOps d p ops).skips el = (ops.reverse.findSome? (BuilderOp.setsSkip el)).getD (p.skips el) := by
  rw [applyOps_eq_foldl d p hi]
  exact foldl_last _ (·.skips el) (BuilderOp.setsSkip el) (fun b a => skips_applyOpInit d b a el) ops p

/-- what one call does to the registration of scheme `s`: a plain registration replaces it by
    "allowed, no custom check", a custom policy is added to what is there -/
def BuilderOp.setsScheme (s : Bytes) (op : BuilderOp) (st : Option (List UrlPolicy)) : Option (List UrlPolicy) :=
  match op with
  | .allowURLSchemes names => if (names.map toLowerName).contains s then some [] else st
  | .allowURLSchemeWithCustomPolicy scheme f => if toLowerName scheme = s then some (st.getD [] ++ [f]) else st
  | _ => st

theorem schemes_plainFold (names : List Bytes) (p : Policy) (s : Bytes) :
    (names.foldl (fun (p : Policy) n => { p with allowURLSchemes := p.allowURLSchemes.set (toLowerName n) [] }) p).allowURLSchemes.get? s =
    if (names.map toLowerName).contains s then some [] else p.allowURLSchemes.get? s := by
  induction names generalizing p with
  | nil => rfl
  | cons n ns ih =>
    simp only [List.foldl_cons, ih, List.map_cons, List.contains_cons, Map.get?_set]
    by_cases h : toLowerName n = s
    · subst h; simp
    · have : ¬ s = toLowerName n := fun h' => h h'.symm
      simp [h, this]

theorem scheme_applyOpInit (d : Bytes → Bytes → Bool) (p : Policy) (op : BuilderOp) (s : Bytes) :
    (applyOpInit d p op).allowURLSchemes.get? s = op.setsScheme s (p.allowURLSchemes.get? s) := by
  cases op
  case' allowAttrs names re ae scope => cases scope
  case' allowStyles names m scope => cases scope
  case allowURLSchemes names =>
    simp only [applyOpInit, BuilderOp.setsScheme, schemes_plainFold]
  case allowURLSchemeWithCustomPolicy scheme f =>
    simp only [applyOpInit, BuilderOp.setsScheme, Map.get?_update, beq_iff_eq]
    split
    · rename_i h; rw [h]
    · rfl
  all_goals
    refine congrArg (·.get? s) ((applyOpInit_frame d p _).allowURLSchemes ?_)
    rfl

theorem scheme_applyOps (d : Bytes → Bytes → Bool) (p : Policy) (hi : p.initialized = true) (ops : List BuilderOp) (s : Bytes) :
    (applyOps d p ops).allowURLSchemes.get? s =
      ops.foldl (fun st op => op.setsScheme s st) (p.allowURLSchemes.get? s) := by
  rw [applyOps_eq_foldl d p hi]
  exact foldl_refine _ (·.allowURLSchemes.get? s) (fun op st => op.setsScheme s st)
    (fun b a => scheme_applyOpInit d b a s) ops p

end BM
