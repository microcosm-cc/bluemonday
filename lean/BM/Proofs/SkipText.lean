import BM.Proofs.Nesting
import BM.Proofs.TextOf
/-
  C08, whole documents: the text the loop writes is exactly the text of the input that lies
  outside every disallowed skip-content element (`Spec.visibleTextAux`), by the same
  open-element simulation as C09.
-/
namespace BM
open Html Spec

/-- the spec's "this element hides its content" -/
def hides (p : Policy) (n : Bytes) : Bool := !allowsElement p n && p.setOfElementsToSkipContent.contains n

theorem count_push_frame {p : Policy} {f : Frame} {fs : List Frame} (hf : FrameOK p f fs)
    (hns : hiddenEl p f.name = false) :
    countOf (f :: fs) = if hides p f.name then countOf fs + 1 else countOf fs := by
  obtain ⟨n, fate⟩ := f
  obtain ⟨_, _, hfate⟩ := hf
  simp only at hfate hns ⊢
  unfold hides
  rw [allowsElement_eq]
  cases fate with
  | hidden => rw [hns] at hfate; cases hfate
  | dis s =>
    obtain ⟨_, ha, rfl⟩ := hfate
    rw [ha]
    cases p.setOfElementsToSkipContent.contains n <;> rfl
  | bare => rw [hfate.2]; rfl
  | kept m sh => rw [hfate.2.1]; rfl

theorem count_push {p : Policy} {f : Frame} {fs : List Frame} (hok : FramesOK p (f :: fs))
    (hns : hiddenEl p f.name = false) :
    countOf (f :: fs) = if hides p f.name then countOf fs + 1 else countOf fs := by
  cases hok with
  | cons _ _ hf _ => exact count_push_frame hf hns

theorem hiddenEl_of_not_script {p : Policy} {n : Bytes} (h : isScriptOrStyle n = false) : hiddenEl p n = false := by
  rw [hiddenEl, h]; rfl

theorem prov_text {p : Policy} {t k : Token} (h : Prov p t k) (hk : k.tt = .text) :
    (k = ⟨.text, [32], []⟩ ∧ p.addSpaces = true) ∨ (k = t ∧ t.tt = .text) := by
  rcases h with h | ⟨rfl, _⟩ | ⟨_, _, _, _, rfl, htt⟩
  · exact .inl h
  · exact .inr ⟨rfl, hk⟩
  · simp only at hk; rcases htt with h | h <;> rw [h] at hk <;> cases hk

theorem visibleTextAux_flat (p : Policy) {t : Token} (hf : Flat [t]) (ht : t.tt ≠ .text) (d : Nat) (S : List Bytes)
    (ts : List Token) : visibleTextAux p d S (t :: ts) = visibleTextAux p d S ts := by
  obtain ⟨he, hv⟩ := hf t (by simp)
  cases htt : t.tt with
  | start => simp only [visibleTextAux, htt, voidElements_eq, hv htt, ↓reduceIte]
  | end_ => exact absurd htt he
  | text => exact absurd htt ht
  | selfClosing => simp only [visibleTextAux, htt]
  | comment => simp only [visibleTextAux, htt]
  | doctype => simp only [visibleTextAux, htt]

theorem additive_nil {φ : Bytes → Bytes} (happ : ∀ a b, φ (a ++ b) = φ a ++ φ b) : φ [] = [] := by
  have h := congrArg List.length (happ [] [])
  rw [List.length_append, List.append_nil] at h
  exact List.length_eq_zero_iff.mp (by omega)

/-- the only text that a token other than a text writes is the added space -/
theorem reading_of_tag {p : Policy} {φ : Bytes → Bytes} (happ : ∀ a b, φ (a ++ b) = φ a ++ φ b)
    (hsp : p.addSpaces = true → φ [32] = []) {t : Token} {toks : List Token}
    (hprov : ∀ k ∈ toks, Prov p t k) (ht : t.tt ≠ .text) : φ (textOf toks) = [] := by
  induction toks with
  | nil => exact additive_nil happ
  | cons k rest ih =>
    rw [textOf_cons, happ, ih fun x hx => hprov x (by simp [hx]), List.append_nil]
    by_cases hk : k.tt = .text
    · rcases prov_text (hprov k (by simp)) hk with ⟨rfl, hs⟩ | ⟨_, htt⟩
      · exact hsp hs
      · exact absurd htt ht
    · simp [tt_beq, hk, additive_nil happ]

theorem Moves.names {t : Token} {fs fs' : List Frame} (h : Moves t fs fs') {P : Bytes → Prop}
    (hfs : ∀ f ∈ fs, P f.name) (ht : t.tt = .start → P t.data) : ∀ g ∈ fs', P g.name := by
  cases h with
  | push f _ htt _ hfn =>
    intro g hg
    rcases List.mem_cons.mp hg with rfl | hg
    · rw [hfn]; exact ht htt
    · exact hfs g hg
  | pop f _ _ _ => exact fun g hg => hfs g (List.mem_cons_of_mem _ hg)
  | stay _ _ => exact hfs

theorem text_step {p : Policy} {φ : Bytes → Bytes} (happ : ∀ a b, φ (a ++ b) = φ a ++ φ b)
    (hsp : p.addSpaces = true → φ [32] = []) {fs fs' : List Frame} {r : Bytes} {t : Token}
    {toks : List Token} (hok : FramesOK p fs) (hok' : FramesOK p fs') (hrec : isScriptOrStyle r = false)
    (hfs : ∀ f ∈ fs, isScriptOrStyle f.name = false) (hfs' : ∀ f ∈ fs', isScriptOrStyle f.name = false)
    (htw : ∀ k ∈ toks, Prov p t k) (hmove : Moves t fs fs')
    (htext : t.tt = .text → toks = if countOf fs == 0 && !isScriptOrStyle r then [t] else [])
    (ts : List Token) :
    φ (textOf toks) ++ φ (visibleTextAux p (countOf fs') (fs'.map (·.name)) ts) =
      φ (visibleTextAux p (countOf fs) (fs.map (·.name)) (t :: ts)) := by
  cases hmove with
  | push f _ htt hv hfn =>
    rw [reading_of_tag happ hsp htw (by rw [htt]; simp),
      count_push hok' (hiddenEl_of_not_script (hfs' f (by simp))), hfn]
    simp only [List.nil_append, visibleTextAux, htt, voidElements_eq, hv, Bool.false_eq_true, ↓reduceIte,
      List.map_cons, hfn]
    rfl
  | pop f _ htt hfn =>
    rw [reading_of_tag happ hsp htw (by rw [htt]; simp)]
    simp only [List.nil_append, visibleTextAux, htt, List.map_cons, List.tail_cons]
    rw [count_push hok (hiddenEl_of_not_script (hfs f (by simp))), ← hfn]
    change φ _ = φ (visibleTextAux p (if hides p f.name = true then _ - 1 else _) _ ts)
    cases hides p f.name <;> simp
  | stay _ hf =>
    by_cases htt : t.tt = .text
    · rw [htext htt, hrec]
      -- the element on top of the stack is not script/style, so the spec looks at the depth only
      have htop : ∀ f ∈ fs.head?, isScriptStyle f.name = false := fun f hf => hfs f (List.mem_of_mem_head? hf)
      cases fs with
      | nil => simp [visibleTextAux, htt, happ, countOf, textOf_text htt]
      | cons f fs' =>
        by_cases hz : countOf (f :: fs') = 0 <;>
          simp [visibleTextAux, htt, happ, htop f rfl, hz, textOf_text htt, textOf_nil, additive_nil happ]
    · rw [reading_of_tag happ hsp htw htt, visibleTextAux_flat p hf htt]
      rfl

/-- `φ` is a reading of the written text that respects concatenation and does not see the added space: `id`
    when no spaces are added, `noSp` in general -/
theorem nest_text_gen (p : Policy) (hu : p.allowUnsafe = false) (φ : Bytes → Bytes)
    (happ : ∀ a b, φ (a ++ b) = φ a ++ φ b) (hsp : p.addSpaces = true → φ [32] = []) :
    ∀ (ts : List Token) (fs : List Frame) (st : LoopState),
    Abs p fs st → isScriptOrStyle st.mostRecentlyStartedToken = false →
    (∀ f ∈ fs, isScriptOrStyle f.name = false) →
    (∀ t ∈ ts, Props.NameOK t) → (∀ t ∈ ts, isTag t = true → isScriptOrStyle t.data = false) →
    wellNestedAux (fs.map (·.name)) ts = true →
    ∃ ws toks, p.run st ts = (ws, false) ∧ RunWrites p ts ws toks ∧
      φ (textOf toks) = φ (visibleTextAux p (countOf fs) (fs.map (·.name)) ts) := by
  intro ts
  induction ts with
  | nil => exact fun fs st _ _ _ _ _ _ => ⟨[], [], rfl, runWrites_nil p, rfl⟩
  | cons t ts ih =>
    intro fs st habs hrec hfs hname hnos hwn
    have hnost := hnos t (by simp)
    obtain ⟨st', fs', ws1, toks1, hstep, habs', htw1, hmove, hwn', _, htext⟩ :=
      step_sim p hu habs (hname t (by simp)) hwn
    have hfs' := hmove.names (P := fun n => isScriptOrStyle n = false) hfs fun htt =>
      hnost ((isTag_iff t).mpr (.inl htt))
    obtain ⟨ws2, toks2, hr, htw2, hout⟩ := ih fs' st' habs' (step_recent p st t st' ws1 hstep hrec hnost) hfs'
      (fun x hx => hname x (by simp [hx])) (fun x hx => hnos x (by simp [hx])) hwn'
    refine ⟨ws1 ++ ws2, toks1 ++ toks2, run_cons_some p st st' t ts ws1 ws2 hstep hr, runWrites_cons htw1 htw2, ?_⟩
    rw [textOf_append, happ, hout]
    exact text_step happ hsp habs.ok habs'.ok hrec hfs hfs' htw1.2 hmove htext ts

theorem nest_text (p : Policy) (hu : p.allowUnsafe = false) (hs : p.addSpaces = false) :
    ∀ (ts : List Token) (fs : List Frame) (st : LoopState),
    Abs p fs st → isScriptOrStyle st.mostRecentlyStartedToken = false →
    (∀ f ∈ fs, isScriptStyle f.name = false) →
    (∀ t ∈ ts, Props.NameOK t) → (∀ t ∈ ts, isTag t = true → isScriptOrStyle t.data = false) →
    wellNestedAux (fs.map (·.name)) ts = true →
    ∃ ws toks, p.run st ts = (ws, false) ∧ RunWrites p ts ws toks ∧
      textOf toks = visibleTextAux p (countOf fs) (fs.map (·.name)) ts :=
  nest_text_gen p hu id (fun _ _ => rfl) fun h => by rw [hs] at h; cases h

/-! ### without the hypothesis on AddSpaceWhenStrippingTag

The added spaces are text tokens of their own, so the statement is about the text with the space
characters taken out on both sides. -/

/-- `Spec.noSpaces`, under the name the statements of C08 use -/
def noSp (s : Bytes) : Bytes := s.filter (· != 32)

theorem nest_text_sp (p : Policy) (hu : p.allowUnsafe = false) :
    ∀ (ts : List Token) (fs : List Frame) (st : LoopState),
    Abs p fs st → isScriptOrStyle st.mostRecentlyStartedToken = false →
    (∀ f ∈ fs, isScriptStyle f.name = false) →
    (∀ t ∈ ts, Props.NameOK t) → (∀ t ∈ ts, isTag t = true → isScriptOrStyle t.data = false) →
    wellNestedAux (fs.map (·.name)) ts = true →
    ∃ ws toks, p.run st ts = (ws, false) ∧ RunWrites p ts ws toks ∧
      noSp (textOf toks) = noSp (visibleTextAux p (countOf fs) (fs.map (·.name)) ts) :=
  nest_text_gen p hu noSp Props.noSpaces_append fun _ => rfl

end BM
