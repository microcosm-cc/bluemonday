import BM.RecCheck
/-
  The cost of `recursiveCheck` (C14, "time bounded by a low-degree polynomial"): for every list of handler
  functions, whatever they accept, and every list of `n` values, the memoised algorithm of css/handlers.go
  invokes a handler at most `len(funcs) · n(n+1)/2` times (`recursiveCheck_calls_le`).  The potential: every
  suffix length `l` not yet marked failed holds a budget of `c l` invocations (the length of the double loop
  for `l` values); an expansion that fails pays for its own loop with the budget its mark releases, and for
  its recursive calls with theirs.
  The second half (from `Split` on) is the verdict: the search returns true exactly when the values can be
  cut into accepted groups (`recursiveCheck_iff`), the invariant being that every mark in the table is true
  of the suffix of that length (`Truthful`); `Decided` is what a call promises: the invariant again and a right
  verdict.  Both halves follow the recursion through
  `recFrom_induct` and the double loop through functional induction on `rcScan`.
-/
namespace BM.Golite

/-- the budget still held by the unmarked suffix lengths `1 … L` -/
def weight (c : Nat → Nat) (st : RC) : Nat → Nat
  | 0 => 0
  | L + 1 => weight c st L + (if st.isFailed (L + 1) then 0 else c (L + 1))

/-- `st'` comes from `st` by ticks and marks at lengths ≤ `L` -/
structure Ext (L : Nat) (st st' : RC) : Prop where
  len : st'.failed.length = st.failed.length
  mono : ∀ l, st.isFailed l = true → st'.isFailed l = true
  above : ∀ l, L < l → st'.isFailed l = st.isFailed l

theorem Ext.refl (L : Nat) (st : RC) : Ext L st st := ⟨rfl, fun _ h => h, fun _ _ => rfl⟩

theorem Ext.trans {L : Nat} {a b c : RC} (h1 : Ext L a b) (h2 : Ext L b c) : Ext L a c :=
  ⟨h2.len.trans h1.len, fun l h => h2.mono l (h1.mono l h), fun l hl => (h2.above l hl).trans (h1.above l hl)⟩

theorem Ext.lift {L M : Nat} {a b : RC} (h : Ext L a b) (hLM : L ≤ M) : Ext M a b :=
  ⟨h.len, h.mono, fun l hl => h.above l (by omega)⟩

theorem Ext.tick (L : Nat) (st : RC) : Ext L st st.tick := ⟨rfl, fun _ h => h, fun _ _ => rfl⟩

theorem weight_le_of_le (c : Nat → Nat) (st : RC) (L M : Nat) (h : L ≤ M) : weight c st L ≤ weight c st M := by
  induction h with
  | refl => exact Nat.le_refl _
  | step _ ih => exact Nat.le_trans ih (Nat.le_add_right _ _)

/-- two states with the same marks at the lengths `L < l ≤ M` hold the same budget between `L` and `M` -/
theorem weight_above (c : Nat → Nat) {L : Nat} {st st' : RC} (M : Nat) (hLM : L ≤ M)
    (h : ∀ l, L < l → l ≤ M → st'.isFailed l = st.isFailed l) :
    weight c st' M + weight c st L = weight c st M + weight c st' L := by
  induction hLM with
  | refl => exact Nat.add_comm _ _
  | step hLM ih =>
    have := ih fun l h1 h2 => h l h1 (Nat.le_succ_of_le h2)
    simp only [weight, Nat.succ_eq_add_one, h _ (Nat.lt_succ_of_le hLM) (Nat.le_refl _)]
    omega

theorem weight_congr (c : Nat → Nat) {st st' : RC} (M : Nat) (h : ∀ l, l ≤ M → st'.isFailed l = st.isFailed l) :
    weight c st' M = weight c st M :=
  weight_above c (L := 0) M (Nat.zero_le _) fun l _ hl => h l hl

theorem weight_tick (c : Nat → Nat) (st : RC) (M : Nat) : weight c st.tick M = weight c st M :=
  weight_congr c M (fun _ _ => rfl)

/-- marks only added up to `M`: the budget up to `M` does not grow -/
theorem weight_mono_of (c : Nat → Nat) {st st' : RC} (M : Nat)
    (h : ∀ l, l ≤ M → st.isFailed l = true → st'.isFailed l = true) : weight c st' M ≤ weight c st M := by
  induction M with
  | zero => exact Nat.le_refl _
  | succ M ih =>
    have := ih fun l hl => h l (Nat.le_succ_of_le hl)
    simp only [weight]
    cases hf : st.isFailed (M + 1) with
    | true => simp only [h _ (Nat.le_refl _) hf, ↓reduceIte]; omega
    | false =>
      cases st'.isFailed (M + 1) <;> simp <;> omega

theorem weight_mono (c : Nat → Nat) {L : Nat} {st st' : RC} (h : Ext L st st') (M : Nat) :
    weight c st' M ≤ weight c st M :=
  weight_mono_of c M fun l _ => h.mono l

/-- what a call on `v` may do to the state and what it may cost -/
def CallSpec (c : Nat → Nat) (rec : List Bytes → RC → Bool × RC) (v : List Bytes) (st : RC) : Prop :=
  Ext v.length st (rec v st).2 ∧
  ((rec v st).1 = false → (rec v st).2.calls + weight c (rec v st).2 v.length ≤ st.calls + weight c st v.length) ∧
  ((rec v st).1 = true → (rec v st).2.calls ≤ st.calls + weight c st v.length)

/-- The potential argument as one invariant: the call that took `st` to `r` touched no length above
    `L`, and its invocations, together with the budget a failing call leaves up to `L`, stay within
    `B`.  `CallSpec` is the case of a whole call (`callSpec_iff`); the double loop needs it at the length
    below and with the pairs still to come added to the budget. -/
def Paid (c : Nat → Nat) (L : Nat) (st : RC) (B : Nat) (r : Bool × RC) : Prop :=
  Ext L st r.2 ∧ r.2.calls + (if r.1 then 0 else weight c r.2 L) ≤ B

theorem callSpec_iff (c : Nat → Nat) (rec : List Bytes → RC → Bool × RC) (v : List Bytes) (st : RC) :
    CallSpec c rec v st ↔ Paid c v.length st (st.calls + weight c st v.length) (rec v st) := by
  unfold CallSpec Paid
  cases (rec v st).1 <;> simp

/-- what holds at length `l` holds at every length above, where the call touched nothing -/
theorem Paid.lift {c : Nat → Nat} {l L B : Nat} {st : RC} {r : Bool × RC}
    (h : Paid c l st (B + weight c st l) r) (hlL : l ≤ L) : Paid c L st (B + weight c st L) r := by
  obtain ⟨b, s⟩ := r
  obtain ⟨hext, h⟩ := h
  have hab := weight_above c (st' := s) L hlL fun l hl _ => hext.above l hl
  have hle := weight_le_of_le c st l L hlL
  refine ⟨hext.lift hlL, ?_⟩
  cases b <;> simp only [Bool.false_eq_true, ↓reduceIte] at h ⊢ <;> omega

theorem isFailed_markFailed_self {st : RC} {n : Nat} (hn : n < st.failed.length) :
    (st.markFailed n).isFailed n = true := by
  simp [RC.markFailed, RC.isFailed, hn]

theorem isFailed_markFailed_ne {st : RC} {n l : Nat} (h : l ≠ n) : (st.markFailed n).isFailed l = st.isFailed l := by
  simp [RC.markFailed, RC.isFailed, Ne.symm h]

theorem Ext.markFailed {st : RC} {n : Nat} (hn : n < st.failed.length) : Ext n st (st.markFailed n) := by
  refine ⟨by simp [RC.markFailed], fun l hl => ?_, fun l hl => isFailed_markFailed_ne (by omega)⟩
  by_cases h : l = n
  · rw [h]; exact isFailed_markFailed_self hn
  · rw [isFailed_markFailed_ne h]; exact hl

/-- the mark releases the budget of its length -/
theorem weight_markFailed (c : Nat → Nat) {st : RC} {n : Nat} (hn : n < st.failed.length) :
    weight c (st.markFailed n) n = weight c st (n - 1) := by
  cases n with
  | zero => rfl
  | succ L =>
    simp only [weight, isFailed_markFailed_self hn, ↓reduceIte, Nat.add_zero, Nat.add_sub_cancel]
    exact weight_congr c L (fun l hl => isFailed_markFailed_ne (by omega))

/-- the case analysis of `recFrom`, shared by the cost proof (`recFrom_spec`) and the proof of what it decides
    (`recFrom_decides`) -/
theorem recFrom_induct (fs : List (Bytes → Bool)) (P : List Bytes → RC → Bool × RC → Prop)
    (marked : ∀ v st, st.isFailed v.length = true → P v st (false, st))
    (found : ∀ v st rec, st.isFailed v.length = false → (∀ v' st', v'.length < v.length → P v' st' (rec v' st')) →
      (rcScan rec v (rcPairs v.length fs) st).1 = true → P v st (rcScan rec v (rcPairs v.length fs) st))
    (failed : ∀ v st rec, st.isFailed v.length = false → (∀ v' st', v'.length < v.length → P v' st' (rec v' st')) →
      (rcScan rec v (rcPairs v.length fs) st).1 = false →
      P v st (false, (rcScan rec v (rcPairs v.length fs) st).2.markFailed v.length))
    (fuel : Nat) (v : List Bytes) (st : RC) (hfuel : v.length < fuel) : P v st (recFrom fs fuel v st) := by
  induction fuel generalizing v st with
  | zero => omega
  | succ fuel ih =>
    have hrec : ∀ v' st', v'.length < v.length → P v' st' (recFrom fs fuel v' st') :=
      fun v' st' h => ih v' st' (by omega)
    unfold recFrom
    cases hfl : st.isFailed v.length with
    | true => exact marked v st hfl
    | false =>
      cases hr : (rcScan (recFrom fs fuel) v (rcPairs v.length fs) st).1 with
      | true => simp only [hr, Bool.false_eq_true, ↓reduceIte]; exact found v st _ hfl hrec hr
      | false => simp only [hr, Bool.false_eq_true, ↓reduceIte]; exact failed v st _ hfl hrec hr

/-- each pair costs one invocation, and a recursive call is paid as its specification says -/
theorem rcScan_spec (c : Nat → Nat) (rec : List Bytes → RC → Bool × RC) (value : List Bytes)
    (hrec : ∀ v st, v.length < value.length → v.length < st.failed.length → CallSpec c rec v st)
    (ps : List (Nat × (Bytes → Bool))) (st : RC) (hlen : value.length ≤ st.failed.length) :
    Paid c (value.length - 1) st (st.calls + ps.length + weight c st (value.length - 1))
      (rcScan rec value ps st) := by
  -- a recursive call on a proper suffix, accounted for at the level of `value`
  have hcall : ∀ (i : Nat) (st : RC), value.length ≤ st.failed.length →
      ¬ ((value.drop (i + 1)).length == 0) = true →
      Paid c (value.length - 1) st (st.calls + 1 + weight c st (value.length - 1))
        (rec (value.drop (i + 1)) st.tick) := by
    intro i st hlen hne
    have hpos : (value.drop (i + 1)).length ≠ 0 := by simpa using hne
    have hL : (value.drop (i + 1)).length ≤ value.length - 1 := by rw [List.length_drop] at hpos ⊢; omega
    have := Paid.lift ((callSpec_iff ..).mp
      (hrec (value.drop (i + 1)) st.tick (by omega) (Nat.lt_of_lt_of_le (by omega) hlen))) hL
    rw [weight_tick] at this
    exact ⟨(Ext.tick _ _).trans this.1, this.2⟩
  fun_induction rcScan rec value ps st
  case case1 => exact ⟨Ext.refl _ _, Nat.le_refl _⟩
  case case2 st _ _ _ =>
    exact ⟨Ext.tick _ _, by simp only [↓reduceIte, List.length_cons]; show st.calls + 1 + 0 ≤ _; omega⟩
  case case3 i j rest st _ _ hne r htrue =>
    obtain ⟨hext, hcost⟩ : Paid c _ st _ r := hcall i st hlen hne
    simp only [Paid, htrue, ↓reduceIte, List.length_cons] at hcost ⊢
    exact ⟨hext, by omega⟩
  case case4 i j rest st _ _ hne r hfalse ih =>
    obtain ⟨hext, hcost⟩ : Paid c _ st _ r := hcall i st hlen hne
    obtain ⟨hext', hcost'⟩ := ih (by rw [hext.len]; exact hlen)
    simp only [hfalse, Bool.false_eq_true, ↓reduceIte] at hcost
    simp only [List.length_cons]
    exact ⟨hext.trans hext', by omega⟩
  case case5 i j rest st _ _ ih =>
    obtain ⟨hext', hcost'⟩ := ih hlen
    rw [weight_tick] at hcost'
    simp only [List.length_cons]
    exact ⟨(Ext.tick _ _).trans hext', Nat.le_trans hcost' (by show st.calls + 1 + _ + _ ≤ _; omega)⟩

def loopLen (fs : List (Bytes → Bool)) (l : Nat) : Nat := (rcPairs l fs).length

theorem recFrom_spec (fs : List (Bytes → Bool)) (fuel : Nat) (value : List Bytes) (st : RC)
    (hfuel : value.length < fuel) (hlen : value.length < st.failed.length) :
    CallSpec (loopLen fs) (recFrom fs fuel) value st := by
  refine (callSpec_iff ..).mpr (recFrom_induct fs (fun v st r => v.length < st.failed.length →
    Paid (loopLen fs) v.length st (st.calls + weight (loopLen fs) st v.length) r) ?_ ?_ ?_ fuel value st hfuel hlen)
  · exact fun v st _ _ => ⟨Ext.refl _ _, by simp⟩
  all_goals
    intro v st rec hfl hrec hr hlen
    obtain ⟨e1, cost⟩ := rcScan_spec (loopLen fs) rec v
      (fun v' s hv hs => (callSpec_iff ..).mpr (hrec v' s hv hs)) (rcPairs v.length fs) st (by omega)
    -- an unmarked length holds the length of its loop
    have hW : weight (loopLen fs) st v.length =
        weight (loopLen fs) st (v.length - 1) + (rcPairs v.length fs).length := by
      cases hL : v.length with
      | zero => simp [weight, rcPairs]
      | succ L =>
        simp only [weight, show st.isFailed (L + 1) = false from hL ▸ hfl, Bool.false_eq_true, ↓reduceIte,
          Nat.add_sub_cancel, loopLen]
    have hL : v.length - 1 ≤ v.length := Nat.sub_le _ _
    simp only [hr, Bool.false_eq_true, ↓reduceIte] at cost
  · exact ⟨e1.lift hL, by simp only [hr, ↓reduceIte]; omega⟩
  · have hl2 : v.length < (rcScan rec v (rcPairs v.length fs) st).2.failed.length := by rw [e1.len]; exact hlen
    refine ⟨(e1.lift hL).trans (Ext.markFailed hl2), ?_⟩
    simp only [Bool.false_eq_true, ↓reduceIte]
    rw [weight_markFailed _ hl2]
    show (rcScan rec v (rcPairs v.length fs) st).2.calls + _ ≤ _
    omega

theorem isFailed_fresh (n l : Nat) : (RC.fresh n).isFailed l = false := by
  unfold RC.fresh RC.isFailed
  simp only [List.getD_eq_getElem?_getD, List.getElem?_replicate]
  split <;> rfl

theorem loopLen_eq (fs : List (Bytes → Bool)) (l : Nat) : loopLen fs l = l * fs.length := by
  unfold loopLen rcPairs
  induction l with
  | zero => simp
  | succ l ih =>
    rw [List.range_succ, List.flatMap_append, List.length_append, ih]
    simp only [List.flatMap_cons, List.flatMap_nil, List.append_nil, List.length_map]
    rw [Nat.succ_mul]

theorem weight_fresh (fs : List (Bytes → Bool)) (n L : Nat) :
    2 * weight (loopLen fs) (RC.fresh n) L = fs.length * (L * (L + 1)) := by
  induction L with
  | zero => simp [weight]
  | succ L ih =>
    have e0 : (L + 1) * (L + 1 + 1) = L * (L + 1) + 2 * (L + 1) := by
      rw [Nat.mul_succ, Nat.mul_succ, Nat.mul_comm (L + 1) L]; omega
    simp only [weight, isFailed_fresh, Bool.false_eq_true, ↓reduceIte, loopLen_eq]
    rw [Nat.mul_add 2, ih, e0, Nat.mul_add fs.length, Nat.mul_left_comm fs.length 2, Nat.mul_comm fs.length (L + 1)]

/-- **C14, the cost of `recursiveCheck`**: for every list of handler functions — whatever they
    accept — and every list of `n` values, the memoised search invokes a handler at most
    `len(funcs) · n(n+1)/2` times -/
theorem recursiveCheck_calls_le (fs : List (Bytes → Bool)) (value : List Bytes) :
    2 * (recursiveCheck fs value).2 ≤ fs.length * (value.length * (value.length + 1)) := by
  unfold recursiveCheck
  simp only
  have hfresh : value.length < (RC.fresh value.length).failed.length := by simp [RC.fresh]
  obtain ⟨_, hf, ht⟩ := recFrom_spec fs (value.length + 1) value (RC.fresh value.length) (by omega) hfresh
  have hw := weight_fresh fs value.length value.length
  have hc : (RC.fresh value.length).calls = 0 := rfl
  cases hr : (recFrom fs (value.length + 1) value (RC.fresh value.length)).1 with
  | true => have := ht hr; omega
  | false => have := hf hr; omega

/-- non-vacuity and a worst case: two handlers that accept every group except those holding the
    last value — 5 values make the search fail after exactly 2·(5+4+3+2+1) = 30 invocations -/
example :
    let acc : Bytes → Bool := fun g => !(g.contains 122)
    recursiveCheck [acc, acc] [b!"a", b!"b", b!"c", b!"d", b!"z"] = (false, 30) := by decide

/-- `value` can be cut into consecutive non-empty groups each of which, joined by a space, is
    accepted -/
inductive Split (acc : Bytes → Bool) : List Bytes → Prop
  | last (g : List Bytes) (hg : g ≠ []) (h : acc (joinBytes [32] g) = true) : Split acc g
  | cons (g rest : List Bytes) (hg : g ≠ []) (hr : rest ≠ []) (h : acc (joinBytes [32] g) = true)
      (hs : Split acc rest) : Split acc (g ++ rest)

/-- every mark in the table is true of the suffix of `orig` of that length -/
def Truthful (acc : Bytes → Bool) (orig : List Bytes) (st : RC) : Prop :=
  ∀ s, s <:+ orig → st.isFailed s.length = true → ¬ Split acc s

/-- what a call on `v` promises of its result `r`: the table still truthful, and the verdict right -/
def Decided (acc : Bytes → Bool) (orig v : List Bytes) (r : Bool × RC) : Prop :=
  Truthful acc orig r.2 ∧ (r.1 = true → Split acc v) ∧ (r.1 = false → ¬ Split acc v)

theorem Split.ne_nil {acc : Bytes → Bool} {v : List Bytes} (h : Split acc v) : v ≠ [] := by
  cases h with
  | last _ hg _ => exact hg
  | cons g rest hg _ _ _ => exact fun h => hg (List.append_eq_nil_iff.mp h).1

/-- `Split` read the way the search looks for it: a first group that ends at some position `i`,
    and behind it nothing or again a split -/
theorem Split.cut {acc : Bytes → Bool} {v : List Bytes} (h : Split acc v) :
    ∃ i, i < v.length ∧ acc (joinBytes [32] (v.take (i + 1))) = true ∧
      (v.drop (i + 1) = [] ∨ Split acc (v.drop (i + 1))) := by
  cases h with
  | last g hg h =>
    have hidx : v.length - 1 + 1 = v.length := Nat.sub_add_cancel (List.length_pos_iff.mpr hg)
    exact ⟨v.length - 1, by omega, by rw [hidx, List.take_length]; exact h, .inl (by rw [hidx, List.drop_length])⟩
  | cons g rest hg hr h hs =>
    have hidx : g.length - 1 + 1 = g.length := Nat.sub_add_cancel (List.length_pos_iff.mpr hg)
    exact ⟨g.length - 1, by rw [List.length_append]; omega, by rw [hidx, List.take_left' rfl]; exact h,
      .inr (by rw [hidx, List.drop_left' rfl]; exact hs)⟩

theorem Split.of_cut {acc : Bytes → Bool} {v : List Bytes} {i : Nat} (hi : i < v.length)
    (h : acc (joinBytes [32] (v.take (i + 1))) = true) (hrest : v.drop (i + 1) = [] ∨ Split acc (v.drop (i + 1))) :
    Split acc v := by
  have htake : v.take (i + 1) ≠ [] := by
    intro hnil
    have := congrArg List.length hnil
    simp only [List.length_take, List.length_nil] at this
    omega
  have hcat := List.take_append_drop (i + 1) v
  rcases hrest with hd | hs
  · rw [hd, List.append_nil] at hcat
    rw [hcat] at h htake
    exact .last v htake h
  · rw [← hcat]
    exact .cons _ _ htake hs.ne_nil h hs

theorem mem_rcPairs (n : Nat) (fs : List (Bytes → Bool)) (i : Nat) (j : Bytes → Bool) :
    (i, j) ∈ rcPairs n fs ↔ i < n ∧ j ∈ fs := by
  unfold rcPairs
  simp only [List.mem_flatMap, List.mem_range, List.mem_map, Prod.mk.injEq]
  constructor
  · rintro ⟨a, ha, b, hb, rfl, rfl⟩; exact ⟨ha, hb⟩
  · rintro ⟨h1, h2⟩; exact ⟨i, h1, j, h2, rfl, rfl⟩

/-- The double loop over the pairs `ps`, each standing for a first group that ends at its position and that
    its handler accepts.  The conclusion is `Decided` with a weaker `false` case: as long as the loop has
    found nothing, only the splits that begin with one of the groups tried are ruled out. -/
theorem rcScan_decides (acc : Bytes → Bool) (orig : List Bytes) (rec : List Bytes → RC → Bool × RC)
    (value : List Bytes) (hv : value <:+ orig)
    (hrec : ∀ v st, v <:+ orig → v.length < value.length → Truthful acc orig st → Decided acc orig v (rec v st))
    (ps : List (Nat × (Bytes → Bool))) (hps : ∀ p ∈ ps, p.1 < value.length ∧ ∀ g, p.2 g = true → acc g = true)
    (st : RC) (hst : Truthful acc orig st) :
    Truthful acc orig (rcScan rec value ps st).2 ∧
    ((rcScan rec value ps st).1 = true → Split acc value) ∧
    ((rcScan rec value ps st).1 = false → ∀ p ∈ ps, p.2 (joinBytes [32] (value.take (p.1 + 1))) = true →
        ¬ (value.drop (p.1 + 1) = [] ∨ Split acc (value.drop (p.1 + 1)))) := by
  -- the recursive call on what is left behind position `i`
  have hcall : ∀ (i : Nat) (st : RC), Truthful acc orig st → ¬ ((value.drop (i + 1)).length == 0) = true →
      Decided acc orig (value.drop (i + 1)) (rec (value.drop (i + 1)) st.tick) := by
    intro i st hst hne
    have hpos : (value.drop (i + 1)).length ≠ 0 := by simpa using hne
    exact hrec _ st.tick (List.IsSuffix.trans (List.drop_suffix _ _) hv)
      (by rw [List.length_drop] at hpos ⊢; omega) hst
  fun_induction rcScan rec value ps st
  case case1 => exact ⟨hst, fun h => by simp at h, fun _ p hp => by simp at hp⟩
  case case2 i j rest st _ hacc hz =>
    refine ⟨hst, fun _ => ?_, fun h => by cases h⟩
    exact .of_cut (hps (i, j) List.mem_cons_self).1 ((hps (i, j) List.mem_cons_self).2 _ hacc)
      (.inl (List.eq_nil_of_length_eq_zero (eq_of_beq hz)))
  case case3 i j rest st _ hacc hne r htrue =>
    obtain ⟨ht, hT, _⟩ := hcall i st hst hne
    refine ⟨ht, fun _ => ?_, fun h => by cases h⟩
    exact .of_cut (hps (i, j) List.mem_cons_self).1 ((hps (i, j) List.mem_cons_self).2 _ hacc) (.inr (hT htrue))
  case case4 i j rest st _ hacc hne r hfalse ih =>
    obtain ⟨ht, _, hF⟩ := hcall i st hst hne
    obtain ⟨t2, T2, F2⟩ := ih (fun p hp => hps p (List.mem_cons_of_mem _ hp)) ht
    refine ⟨t2, T2, fun h p hp hpa => ?_⟩
    rcases List.mem_cons.mp hp with rfl | hp
    · rintro (hd | hs)
      · rw [hd] at hne; exact hne rfl
      · exact hF (Bool.eq_false_iff.mpr hfalse) hs
    · exact F2 h p hp hpa
  case case5 i j rest st _ hrej ih =>
    obtain ⟨t2, T2, F2⟩ := ih (fun p hp => hps p (List.mem_cons_of_mem _ hp)) hst
    refine ⟨t2, T2, fun h p hp hpa => ?_⟩
    rcases List.mem_cons.mp hp with rfl | hp
    · exact absurd hpa hrej
    · exact F2 h p hp hpa

theorem recFrom_decides (fs : List (Bytes → Bool)) (orig : List Bytes) (fuel : Nat) (value : List Bytes) (st : RC)
    (hv : value <:+ orig) (hfuel : value.length < fuel) (hst : Truthful (fun g => fs.any (· g)) orig st) :
    Truthful (fun g => fs.any (· g)) orig (recFrom fs fuel value st).2 ∧
    ((recFrom fs fuel value st).1 = true → Split (fun g => fs.any (· g)) value) ∧
    ((recFrom fs fuel value st).1 = false → ¬ Split (fun g => fs.any (· g)) value) := by
  refine recFrom_induct fs (fun v st r => v <:+ orig → Truthful (fun g => fs.any (· g)) orig st →
    Decided (fun g => fs.any (· g)) orig v r) ?_ ?_ ?_ fuel value st hfuel hv hst
  · exact fun v st hfl hv hst => ⟨hst, fun h => by simp at h, fun _ => hst v hv hfl⟩
  all_goals
    intro v st rec _ hrec hr hv hst
    obtain ⟨t1, T1, F1⟩ := rcScan_decides _ orig rec v hv (fun v' s hvs hvl hs => hrec v' s hvl hvs hs)
      (rcPairs v.length fs) (fun p hp => ⟨((mem_rcPairs ..).mp hp).1,
        fun g hg => List.any_eq_true.mpr ⟨p.2, ((mem_rcPairs ..).mp hp).2, hg⟩⟩) st hst
  · exact ⟨t1, fun _ => T1 hr, fun h => by rw [hr] at h; cases h⟩
  · -- a split would start with a group that some pair of the loop tried
    have hno : ¬ Split (fun g => fs.any (· g)) v := by
      intro hsp
      obtain ⟨i, hi, hacc, hrest⟩ := hsp.cut
      obtain ⟨j, hj, hjg⟩ := List.any_eq_true.mp hacc
      exact F1 hr (i, j) ((mem_rcPairs ..).mpr ⟨hi, hj⟩) hjg hrest
    refine ⟨fun s hs hmark => ?_, fun h => by simp at h, fun _ => hno⟩
    by_cases hl : s.length = v.length
    · -- the suffix of that length is `v` itself
      rw [(List.suffix_of_suffix_length_le hs hv (Nat.le_of_eq hl)).eq_of_length hl]; exact hno
    · rw [isFailed_markFailed_ne hl] at hmark
      exact t1 s hs hmark

/-- the `failed` table changes the cost, never the verdict -/
theorem recursiveCheck_iff (fs : List (Bytes → Bool)) (value : List Bytes) :
    (recursiveCheck fs value).1 = true ↔ Split (fun g => fs.any (· g)) value := by
  unfold recursiveCheck
  simp only
  have hfresh : Truthful (fun g => fs.any (· g)) value (RC.fresh value.length) := by
    intro s _ h
    rw [isFailed_fresh] at h; cases h
  obtain ⟨_, hT, hF⟩ := recFrom_decides fs value (value.length + 1) value (RC.fresh value.length)
    (List.suffix_refl _) (by omega) hfresh
  constructor
  · exact hT
  · intro hs
    cases hr : (recFrom fs (value.length + 1) value (RC.fresh value.length)).1 with
    | true => rfl
    | false => exact absurd hs (hF hr)

end BM.Golite
