import BM.Proofs.Escape
/-
  Render/tokenize round trip, tag half: what the tokenizer reads back from the serialisation
  of a well-formed tag.
-/
namespace BM.Html

/-- a byte that may occur inside a tag name as the tokenizer produces it -/
def nameByte (c : UInt8) : Bool := !(isWs c) && c != 47 && c != 62 && !(isUpper c)

/-- a byte that may occur inside an attribute key (after index 0) -/
def keyByte (c : UInt8) : Bool := !(keyStop c) && !(isUpper c)

/-- well-formed attribute as the tokenizer produces it: non-empty lower-case key, `=` only at
    index 0, nothing that ends a key -/
def AttrOK (a : Attr) : Prop :=
  ∃ c rest, a.key = c :: rest ∧ (c == 61 || keyByte c) = true ∧ (∀ x ∈ rest, keyByte x = true)

/-- well-formed tag name, as the round trip needs it: starts with a lower-case letter, no whitespace, `/`, `>`,
    upper case.  Not `Props.NameOK` (Proofs/LoopState), which is about a token and only says that a start tag's name
    does not begin with `/`; `Props.nameOK_of_tokWF` (Props/C14) gets that from this. -/
def NameOK' (n : Bytes) : Prop :=
  ∃ c rest, n = c :: rest ∧ isLowerA c = true ∧ (∀ x ∈ rest, nameByte x = true)

theorem nameByte_iff (c : UInt8) :
    nameByte c = true ↔ isWs c = false ∧ c ≠ 47 ∧ c ≠ 62 ∧ isUpper c = false := by
  simp only [nameByte, Bool.and_eq_true, Bool.not_eq_true', bne_iff_ne, ne_eq, and_assoc]

theorem keyByte_iff (c : UInt8) : keyByte c = true ↔ keyStop c = false ∧ isUpper c = false := by
  simp only [keyByte, Bool.and_eq_true, Bool.not_eq_true']

theorem keyStop_false_iff (c : UInt8) : keyStop c = false ↔ c ≠ 61 ∧ isWs c = false ∧ c ≠ 47 ∧ c ≠ 62 := by
  simp only [keyStop, Bool.or_eq_false_iff, beq_eq_false_iff_ne, ne_eq, and_assoc]

theorem lowerA_bytes {d : UInt8} (h : isLowerA d = true) : nameByte d = true ∧ keyByte d = true := by
  have e : ∀ k : UInt8, (d == k) = decide (d.toNat = k.toNat) := fun k => by
    rw [Bool.eq_iff_iff]; simp [UInt8.toNat_inj]
  simp only [isLowerA, nameByte, keyByte, keyStop, isWs, isUpper, bne, e, UInt8.le_iff_toNat_le,
    Bool.and_eq_true, decide_eq_true_eq, Bool.not_eq_true', Bool.or_eq_false_iff,
    decide_eq_false_iff_not, Bool.and_eq_false_iff, UInt8.reduceToNat] at h ⊢
  omega

theorem nameOK_bytes {n : Bytes} (hn : NameOK' n) : ∀ x ∈ n, nameByte x = true := by
  obtain ⟨c, cs, rfl, hc, hcs⟩ := hn
  intro x hx
  rcases List.mem_cons.mp hx with rfl | hx
  · exact (lowerA_bytes hc).1
  · exact hcs x hx

theorem attrOK_bytes {a : Attr} (ha : AttrOK a) :
    ∀ x ∈ a.key, isUpper x = false ∧ isWs x = false ∧ x ≠ 47 ∧ x ≠ 62 := by
  obtain ⟨c, cs, hkey, hc, hcs⟩ := ha
  have hkb : ∀ x, keyByte x = true → isUpper x = false ∧ isWs x = false ∧ x ≠ 47 ∧ x ≠ 62 := fun x hx =>
    let ⟨hs, hu⟩ := (keyByte_iff x).mp hx
    ⟨hu, ((keyStop_false_iff x).mp hs).2⟩
  intro x hx
  rw [hkey, List.mem_cons] at hx
  rcases hx with rfl | hx
  · by_cases h61 : x = 61
    · subst h61; decide
    · exact hkb x (by simpa [h61] using hc)
  · exact hkb x (hcs x hx)

/-- `lowerByte`: a byte that is no upper-case letter — a lower-case letter for one — stays as it is, an upper-case
    letter becomes a lower-case letter. -/
theorem lowerByte_spec (c : UInt8) :
    (isUpper c = false → lowerByte c = c) ∧ (isUpper c = true → isLowerA (lowerByte c) = true) ∧
    (isLowerA c = true → isUpper c = false) := by
  refine ⟨fun h => by simp [lowerByte, h], fun h => ?_, fun h => ?_⟩
  · rw [lowerByte, if_pos h]
    simp only [isUpper, isLowerA, Bool.and_eq_true, decide_eq_true_eq, UInt8.le_iff_toNat_le, UInt8.toNat_add,
      UInt8.reduceToNat] at h ⊢
    omega
  · simp only [isUpper, isLowerA, Bool.and_eq_true, Bool.and_eq_false_iff, decide_eq_true_eq,
      decide_eq_false_iff_not, UInt8.le_iff_toNat_le, UInt8.reduceToNat] at h ⊢
    omega

theorem lowerAscii_id (s : Bytes) (h : ∀ x ∈ s, isUpper x = false) : lowerAscii s = s := by
  conv => rhs; rw [← List.map_id s]
  exact List.map_congr_left fun x hx => (lowerByte_spec x).1 (h x hx)

theorem lowerAscii_idem (n : Bytes) : lowerAscii (lowerAscii n) = lowerAscii n :=
  lowerAscii_id _ fun x hx => by
    obtain ⟨a, _, rfl⟩ := List.mem_map.mp hx
    cases hu : isUpper a
    · rw [(lowerByte_spec a).1 hu]; exact hu
    · exact (lowerByte_spec _).2.2 ((lowerByte_spec a).2.1 hu)

theorem readTagNameAux_sep (n : Bytes) (hn : ∀ x ∈ n, nameByte x = true) (sep : UInt8) (rest : Bytes)
    (hsep : isWs sep = true ∨ sep = 47 ∨ sep = 62) :
    readTagNameAux (n ++ sep :: rest) = some (n, if isWs sep then rest else sep :: rest) := by
  induction n with
  | nil =>
    rw [List.nil_append, readTagNameAux]
    cases hw : isWs sep with
    | true => rfl
    | false =>
      have : (sep == 47 || sep == 62) = true := by
        rcases hsep with h | rfl | rfl
        · rw [hw] at h; cases h
        · rfl
        · rfl
      simp only [Bool.false_eq_true, ↓reduceIte, this]
  | cons c cs ih =>
    obtain ⟨hws, h47, h62, _⟩ := (nameByte_iff c).mp (hn c (List.mem_cons_self ..))
    have h47' : (c == 47) = false := beq_eq_false_iff_ne.mpr h47
    have h62' : (c == 62) = false := beq_eq_false_iff_ne.mpr h62
    rw [List.cons_append, readTagNameAux, ih fun x hx => hn x (List.mem_cons_of_mem _ hx)]
    simp only [hws, h47', h62', Bool.or_self, Bool.false_eq_true, ↓reduceIte, Option.map_some]

theorem keyBody_append (k : Bytes) (hk : ∀ x ∈ k, keyByte x = true) (sep : UInt8) (hsep : keyStop sep = true)
    (rest : Bytes) : keyBody (k ++ sep :: rest) = some (k, sep :: rest) := by
  induction k with
  | nil => simp only [List.nil_append, keyBody, hsep, ↓reduceIte]
  | cons c cs ih =>
    have hc := (keyByte_iff c).mp (hk c (List.mem_cons_self ..))
    simp only [List.cons_append, keyBody, hc.1, Bool.false_eq_true, ↓reduceIte]
    rw [ih (fun x hx => hk x (List.mem_cons_of_mem _ hx))]
    rfl

theorem readKey_append (a : Attr) (ha : AttrOK a) (rest : Bytes) :
    readKey (a.key ++ 61 :: rest) = some (a.key, 61 :: rest) := by
  obtain ⟨c, cs, hkey, hc, hcs⟩ := ha
  have hbody := keyBody_append cs hcs 61 rfl rest
  rw [hkey, List.cons_append, readKey]
  by_cases h61 : c = 61
  · simp [h61, hbody]
  · have hs : keyStop c = false := ((keyByte_iff c).mp (by simpa [h61] using hc)).1
    simp [h61, keyBody, hs, hbody]

theorem readQuoted_append (q : UInt8) (e rest : Bytes) (hno : ∀ c ∈ e, c ≠ q) :
    readQuoted q (e ++ q :: rest) = some (e, rest) := by
  induction e with
  | nil => simp [readQuoted]
  | cons c cs ih =>
    have hc : (c == q) = false := beq_eq_false_iff_ne.mpr (hno c (List.mem_cons_self ..))
    simp only [List.cons_append, readQuoted, hc, Bool.false_eq_true, ↓reduceIte]
    rw [ih (fun x hx => hno x (List.mem_cons_of_mem _ hx))]
    rfl

theorem readVal_rendered (v rest : Bytes) :
    readVal (61 :: 34 :: (escape v ++ 34 :: rest)) = some (escape v, rest) := by
  simp [readVal, skipWs, isWs, readQuoted_append 34 _ rest fun _ => escape_no_quote]

theorem attrOK_head_not_ws (a : Attr) (ha : AttrOK a) :
    ∃ c rest, a.key = c :: rest ∧ isWs c = false ∧ c ≠ 47 ∧ c ≠ 62 := by
  obtain ⟨c, cs, hkey, _⟩ := id ha
  obtain ⟨_, hws, h47, h62⟩ := attrOK_bytes ha c (by rw [hkey]; exact List.mem_cons_self ..)
  exact ⟨c, cs, hkey, hws, h47, h62⟩

/-- raw form of a rendered attribute: key as is, value escaped -/
def rawAttr (a : Attr) : Attr := ⟨a.key, escape a.val⟩

theorem skipWs_of_not_ws (c : UInt8) (cs : Bytes) (h : isWs c = false) : skipWs (c :: cs) = c :: cs := by
  simp [skipWs, h]

theorem skipWs_space_then (c : UInt8) (cs : Bytes) (h : isWs c = false) : skipWs (32 :: c :: cs) = c :: cs := by
  have h32 : isWs 32 = true := by decide
  simp only [skipWs, h32, ↓reduceIte, h, Bool.false_eq_true]

/-- `term` is a tag terminator followed by `rest`: what may follow the attributes of a rendered tag, `>` (start /
    end tag) or `/>` -/
def TagEnd (term rest : Bytes) : Prop := term = 62 :: rest ∨ term = 47 :: 62 :: rest

theorem TagEnd.head {term rest : Bytes} (h : TagEnd term rest) :
    ∃ d ds, term = d :: ds ∧ isWs d = false ∧ (d = 62 ∨ d = 47) := by
  rcases h with h | h <;> subst h
  · exact ⟨62, rest, rfl, by decide, .inl rfl⟩
  · exact ⟨47, 62 :: rest, rfl, by decide, .inr rfl⟩

theorem renderAttrs_cons_append (a : Attr) (as : List Attr) (term : Bytes) :
    renderAttrs (a :: as) ++ term =
      32 :: (a.key ++ 61 :: 34 :: (escape a.val ++ 34 :: (renderAttrs as ++ term))) := by
  simp [renderAttrs, List.append_assoc]

theorem renderAttrs_length (as : List Attr) : as.length ≤ (renderAttrs as).length := by
  induction as with
  | nil => simp [renderAttrs]
  | cons a as ih => simp [renderAttrs]; omega

/-- the length bound is for the fuel `readTag` gives `readAttrs` -/
theorem skipWs_rendered (as : List Attr) (hok : ∀ a ∈ as, AttrOK a) {term rest : Bytes} (ht : TagEnd term rest) :
    ∃ d ds, skipWs (renderAttrs as ++ term) = d :: ds ∧ as.length ≤ ds.length := by
  cases as with
  | nil =>
    obtain ⟨d, ds, rfl, hws, _⟩ := ht.head
    exact ⟨d, ds, by simp [renderAttrs, skipWs, hws], Nat.zero_le _⟩
  | cons b bs =>
    obtain ⟨c, cs, hkey, hws, _, _⟩ := attrOK_head_not_ws b (hok b (List.mem_cons_self ..))
    refine ⟨c, cs ++ 61 :: 34 :: (escape b.val ++ 34 :: (renderAttrs bs ++ term)),
      by rw [renderAttrs_cons_append, hkey]; exact skipWs_space_then c _ hws, ?_⟩
    have := renderAttrs_length bs
    simp only [List.length_append, List.length_cons]
    omega

/-- the attribute loop on the bare terminator; on `/>` it reads an empty key first -/
theorem readAttrs_term {term rest : Bytes} (ht : TagEnd term rest) (acc : List Attr) (fuel : Nat)
    (hf : 1 < fuel) : readAttrs fuel term acc = some (acc.reverse, rest) := by
  obtain ⟨m, rfl⟩ : ∃ m, fuel = m + 2 := ⟨fuel - 2, by omega⟩
  rcases ht with rfl | rfl
  · simp [readAttrs]
  · simp [readAttrs, readKey, keyBody, keyStop, readVal, skipWs, isWs]

theorem readAttrs_rendered (as : List Attr) (hok : ∀ a ∈ as, AttrOK a) {term rest : Bytes}
    (ht : TagEnd term rest) :
    ∀ (acc : List Attr) (fuel : Nat), as.length + 1 < fuel →
      readAttrs fuel (skipWs (renderAttrs as ++ term)) acc = some (acc.reverse ++ as.map rawAttr, rest) := by
  induction as with
  | nil =>
    intro acc fuel hf
    obtain ⟨d, ds, hd, hws, _⟩ := ht.head
    have : skipWs (renderAttrs [] ++ term) = term := by
      rw [hd]; simp [renderAttrs, skipWs, hws]
    rw [this, readAttrs_term ht acc fuel (by simpa using hf)]
    simp
  | cons a as ih =>
    intro acc fuel hf
    obtain ⟨n, rfl⟩ : ∃ n, fuel = n + 1 := ⟨fuel - 1, by omega⟩
    have ha := hok a (List.mem_cons_self ..)
    have hoks : ∀ x ∈ as, AttrOK x := fun x hx => hok x (List.mem_cons_of_mem _ hx)
    obtain ⟨c, cs, hkey, hws, _, h62⟩ := attrOK_head_not_ws a ha
    -- the space is skipped; one iteration of the loop reads `key="value"`
    have hstart : a.key ++ 61 :: 34 :: (escape a.val ++ 34 :: (renderAttrs as ++ term)) =
        c :: (cs ++ 61 :: 34 :: (escape a.val ++ 34 :: (renderAttrs as ++ term))) := by
      rw [hkey]; rfl
    have hc62 : (c == 62) = false := beq_eq_false_iff_ne.mpr h62
    have hkne : a.key.isEmpty = false := by rw [hkey]; rfl
    rw [renderAttrs_cons_append, hstart, skipWs_space_then c _ hws]
    simp only [readAttrs, hc62, Bool.false_eq_true, ↓reduceIte]
    rw [← hstart, readKey_append a ha]
    simp only [readVal_rendered, hkne, Bool.false_eq_true, ↓reduceIte]
    -- what follows: the next attribute (after a space) or the terminator
    obtain ⟨d, ds, hsw, _⟩ := skipWs_rendered as hoks ht
    have hnext := ih hoks (⟨a.key, escape a.val⟩ :: acc) n (by simp at hf; omega)
    rw [hsw] at hnext
    simp only [hsw, hnext]
    simp [rawAttr, List.append_assoc]

theorem readTag_rendered (n : Bytes) (hn : NameOK' n) (as : List Attr) (hok : ∀ a ∈ as, AttrOK a)
    {term rest : Bytes} (ht : TagEnd term rest) :
    readTag (n ++ (renderAttrs as ++ term)) = some (n, as.map rawAttr, rest) := by
  obtain ⟨c, cs, rfl, _, hcs⟩ := hn
  -- the name ends at the space before the first attribute, or at the terminator
  obtain ⟨sep, tail, hst, hsep⟩ : ∃ sep tail, renderAttrs as ++ term = sep :: tail ∧
      (isWs sep = true ∨ sep = 47 ∨ sep = 62) := by
    cases as with
    | nil =>
      obtain ⟨d, ds, hd, _, hd'⟩ := ht.head
      exact ⟨d, ds, hd, .inr hd'.symm⟩
    | cons a as' => exact ⟨32, _, renderAttrs_cons_append a as' term, .inl rfl⟩
  have hname : readTagName ((c :: cs) ++ (renderAttrs as ++ term)) =
      some (c :: cs, if isWs sep then tail else sep :: tail) := by
    rw [hst, List.cons_append, readTagName, readTagNameAux_sep cs hcs sep tail hsep]; rfl
  have hsk : skipWs (if isWs sep then tail else sep :: tail) = skipWs (renderAttrs as ++ term) := by
    rw [hst]
    cases hw : isWs sep <;> simp [skipWs, hw]
  obtain ⟨d, ds, hs, hlen⟩ := skipWs_rendered as hok ht
  have hattrs := readAttrs_rendered as hok ht [] ((d :: ds).length + 1) (by simp only [List.length_cons]; omega)
  rw [hs] at hattrs hsk
  simp only [readTag, hname, hsk, hattrs]
  rfl

theorem decodeAttrs_raw (as : List Attr) (hok : ∀ a ∈ as, AttrOK a) :
    decodeAttrs (as.map rawAttr) = as := by
  induction as with
  | nil => rfl
  | cons a as ih =>
    have hlow : lowerAscii a.key = a.key :=
      lowerAscii_id _ fun x hx => (attrOK_bytes (hok a (List.mem_cons_self ..)) x hx).1
    have := ih fun x hx => hok x (List.mem_cons_of_mem _ hx)
    simp only [decodeAttrs] at this
    simp only [List.map_cons, decodeAttrs, rawAttr, hlow, convertNewlines_escape, unescape_escape, this]

end BM.Html
