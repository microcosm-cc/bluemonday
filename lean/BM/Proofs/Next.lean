import BM.Html
/-
  `Html.next` (one call of `Tokenizer.Next`) split into its raw-text half and its data-state half, with
  the equations of the data-state half on the inputs the round trip meets: a text, `<` + letter,
  `</` + letter, `<!`.
-/
namespace BM.Html

/-- the raw-text half of `next`, as a function of its own -/
def rawStep (rawTag s : Bytes) : Option (Token × Bytes × Bytes) × Bytes :=
  if rawTag.isEmpty then (none, rawTag)
  else
    let (t, rest) := readRaw rawTag s
    let rawTag' := if rawTag == b!"plaintext" then rawTag else []
    if t.isEmpty then (none, rawTag')
    else
      let isRaw := rawTag == b!"plaintext" || rawTag == b!"script" ||
        (rawTag != b!"textarea" && rawTag != b!"title")
      (some (⟨.text, textData t true isRaw, []⟩, rawTag', rest), rawTag')

/-- after `<` and a letter: a start or self-closing tag -/
def openStep (rawTag : Bytes) (c : UInt8) (r : Bytes) : Option (Token × Bytes × Bytes) :=
  match readTag (c :: r) with
  | none => none
  | some (name, as, rest') =>
    let consumed := (c :: r).take ((c :: r).length - rest'.length)
    let lname := lowerAscii name
    let rawTag' := if isRawTagName lname then lname else rawTag
    let tt := if endsSelfClosing consumed then TT.selfClosing else TT.start
    some (⟨tt, lname, decodeAttrs as⟩, rawTag', rest')

/-- after `</`: an end tag, or one of the bogus-comment forms -/
def closeStep (rawTag s r : Bytes) : Option (Token × Bytes × Bytes) :=
  match r with
  | [] => some (⟨.text, textData s false false, []⟩, rawTag, [])
  | d :: r' =>
    if d == 62 then some (⟨.comment, [], []⟩, rawTag, r')
    else if isAlpha d then
      match readTag (d :: r') with
      | none => none
      | some (name, _, rest') => some (⟨.end_, lowerAscii name, []⟩, rawTag, rest')
    else
      let (dd, rest') := readUntilCloseAngle (d :: r')
      some (⟨.comment, textData dd true false, []⟩, rawTag, rest')

/-- after `<` and one more byte `c` -/
def markupStep (rawTag s : Bytes) (c : UInt8) (r : Bytes) : Option (Token × Bytes × Bytes) :=
  if isAlpha c then openStep rawTag c r
  else if c == 47 then closeStep rawTag s r
  else if c == 33 then
    let (tt, dd, rest') := readMarkupDeclaration r
    some (⟨tt, textData dd (tt == .comment) false, []⟩, rawTag, rest')
  else
    let (dd, rest') := readUntilCloseAngle (c :: r)
    some (⟨.comment, textData dd true false, []⟩, rawTag, rest')

/-- the data-state half of `next` -/
def dataStep (rawTag s : Bytes) : Option (Token × Bytes × Bytes) :=
  let (t, rest) := scanText s
  if !t.isEmpty then some (⟨.text, textData t false false, []⟩, rawTag, rest)
  else match rest with
  | _ :: c :: r => markupStep rawTag s c r
  | _ => none

theorem next_eq (rawTag s : Bytes) :
    next rawTag s = if s.isEmpty then none else
      match rawStep rawTag s with
      | (some r, _) => some r
      | (none, rt) => dataStep rt s := rfl

theorem next_data {s : Bytes} (hs : s ≠ []) : next [] s = dataStep [] s := by
  cases s with
  | nil => exact absurd rfl hs
  | cons c cs => rfl

theorem tokenizeAux_forall {P : Token → Prop}
    (h : ∀ rawTag s t rawTag' rest, next rawTag s = some (t, rawTag', rest) → P t) :
    ∀ fuel rawTag s, ∀ t ∈ tokenizeAux fuel rawTag s, P t
  | 0, _, _, _, ht => nomatch ht
  | fuel + 1, rawTag, s, t, ht => by
    unfold tokenizeAux at ht
    split at ht
    · nomatch ht
    · rename_i hnext
      rcases List.mem_cons.mp ht with rfl | ht
      · exact h _ _ _ _ _ hnext
      · exact tokenizeAux_forall h fuel _ _ t ht

theorem scanText_markup (m : Bytes) (h : isMarkupStart m = true) : scanText m = ([], m) := by
  cases m with
  | nil => rfl
  | cons c cs => simp only [scanText, h, ↓reduceIte]

theorem dataStep_text (rawTag : Bytes) {s t rest : Bytes} (h : scanText s = (t, rest)) (ht : t ≠ []) :
    dataStep rawTag s = some (⟨.text, textData t false false, []⟩, rawTag, rest) := by
  cases t with
  | nil => exact absurd rfl ht
  | cons c cs => simp only [dataStep, h, List.isEmpty_cons, Bool.not_false, ↓reduceIte]

theorem dataStep_markup (rawTag : Bytes) (x c : UInt8) (r : Bytes) (h : isMarkupStart (x :: c :: r) = true) :
    dataStep rawTag (x :: c :: r) = markupStep rawTag (x :: c :: r) c r := by
  simp only [dataStep, scanText_markup _ h, List.isEmpty_nil, Bool.not_true, Bool.false_eq_true, ↓reduceIte]

theorem dataStep_open (rawTag : Bytes) {c : UInt8} {r name rest : Bytes} {as : List Attr} (hc : isAlpha c = true)
    (h : readTag (c :: r) = some (name, as, rest)) :
    dataStep rawTag (60 :: c :: r) =
      some (⟨if endsSelfClosing ((c :: r).take ((c :: r).length - rest.length)) then .selfClosing else .start,
          lowerAscii name, decodeAttrs as⟩,
        if isRawTagName (lowerAscii name) then lowerAscii name else rawTag, rest) := by
  rw [dataStep_markup _ _ _ _ (by simp [isMarkupStart, hc])]
  simp only [markupStep, hc, ↓reduceIte, openStep, h]

theorem dataStep_close (rawTag : Bytes) {d : UInt8} {r name rest : Bytes} {as : List Attr} (hd : isAlpha d = true)
    (h : readTag (d :: r) = some (name, as, rest)) :
    dataStep rawTag (60 :: 47 :: d :: r) = some (⟨.end_, lowerAscii name, []⟩, rawTag, rest) := by
  have h47 : isAlpha 47 = false := by decide
  have hd62 : (d == 62) = false := beq_eq_false_iff_ne.mpr fun e => by rw [e] at hd; exact absurd hd (by decide)
  rw [dataStep_markup _ _ _ _ rfl]
  simp only [markupStep, h47, Bool.false_eq_true, ↓reduceIte, beq_self_eq_true, closeStep, hd62, hd, h]

theorem dataStep_bang (rawTag r : Bytes) :
    dataStep rawTag (60 :: 33 :: r) =
      some (⟨(readMarkupDeclaration r).1,
          textData (readMarkupDeclaration r).2.1 ((readMarkupDeclaration r).1 == .comment) false, []⟩,
        rawTag, (readMarkupDeclaration r).2.2) := by
  have h33 : isAlpha 33 = false := by decide
  have h1 : ((33 : UInt8) == 47) = false := by decide
  rw [dataStep_markup _ _ _ _ rfl]
  simp only [markupStep, h33, h1, Bool.false_eq_true, ↓reduceIte, beq_self_eq_true]

end BM.Html
