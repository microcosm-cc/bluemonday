import BM.Sanitize
import BM.Proofs.Builder
/-
  C17, the congruence half: `sanitize` reads a policy only through its view.  `Policy.view` collects what the
  filter asks of a policy: the switches, and — as plain functions — whether an element has rules, whether its
  rules / the global rules accept a key-value pair, whether it may appear bare, whether its content is skipped,
  whether it is allowed by name or by pattern, whether style rules apply to it, whether a declaration is accepted
  on it, and whether a parsed URL's scheme is acceptable.  With the view as a function of the tables read as sets
  (`C17_view_of_tables`, Props/C17b, from the readings of Proofs/ViewTables) this lifts
  `C17_rule_tables` from tables to outputs.
-/
namespace BM
open Html

/-- what the first pass asks of a rule table: is `k = v` accepted? -/
def acceptBy (aps : AttrRules) (k v : Bytes) : Bool :=
  match aps.get? k with
  | some apl => attrPoliciesAccept apl v
  | none => false

/-- is the scheme of a parsed URL acceptable (`validURL`'s lookup)? -/
def Policy.schemeOK (p : Policy) (u : Url.URL) : Bool :=
  match p.allowURLSchemes.get? u.scheme with
  | none => p.allowURLSchemeRegexps.any (·.test u.scheme)
  | some policies => policies.isEmpty || policies.any (· u)

def Policy.acceptFor (p : Policy) (el k v : Bytes) : Bool :=
  match p.attrRulesFor el with
  | some aps => acceptBy aps k v
  | none => false

structure View where
  sw : Switches
  rulesSome : Bytes → Bool
  accept : Bytes → Bytes → Bytes → Bool
  gaccept : Bytes → Bytes → Bool
  noAttrs : Bytes → Bool
  skips : Bytes → Bool
  explicit : Bytes → Bool
  pattern : Bytes → Bool
  hasStyle : Bytes → Bool
  decl : Bytes → Css.Decl → Bool
  schemeOK : Url.URL → Bool

def Policy.view (p : Policy) : View :=
  { sw := p.switches
    rulesSome := fun el => (p.attrRulesFor el).isSome
    accept := p.acceptFor
    gaccept := acceptBy p.globalAttrs
    noAttrs := p.allowNoAttrs
    skips := fun el => p.setOfElementsToSkipContent.contains el
    explicit := p.explicitEl
    pattern := p.patternEl
    hasStyle := p.hasStylePolicies
    decl := fun el dec => p.declAccepted (p.styleRulesFor el) dec
    schemeOK := p.schemeOK }

section congr
variable {p q : Policy} (h : p.view = q.view)
include h

omit h in
structure SameSwitches (p q : Policy) : Prop where
  addSpaces : p.addSpaces = q.addSpaces
  requireNoFollow : p.requireNoFollow = q.requireNoFollow
  requireNoFollowFullyQualifiedLinks : p.requireNoFollowFullyQualifiedLinks = q.requireNoFollowFullyQualifiedLinks
  requireNoReferrer : p.requireNoReferrer = q.requireNoReferrer
  requireNoReferrerFullyQualifiedLinks : p.requireNoReferrerFullyQualifiedLinks = q.requireNoReferrerFullyQualifiedLinks
  requireCrossOriginAnonymous : p.requireCrossOriginAnonymous = q.requireCrossOriginAnonymous
  addTargetBlankToFullyQualifiedLinks : p.addTargetBlankToFullyQualifiedLinks = q.addTargetBlankToFullyQualifiedLinks
  requireParseableURLs : p.requireParseableURLs = q.requireParseableURLs
  allowRelativeURLs : p.allowRelativeURLs = q.allowRelativeURLs
  allowDataAttributes : p.allowDataAttributes = q.allowDataAttributes
  allowComments : p.allowComments = q.allowComments
  allowUnsafe : p.allowUnsafe = q.allowUnsafe
  requireSandboxOnIFrame : p.requireSandboxOnIFrame = q.requireSandboxOnIFrame
  srcRewriter : p.srcRewriter = q.srcRewriter

theorem view_switches : SameSwitches p q := by
  have hsw : p.switches = q.switches := congrArg View.sw h
  simp only [Policy.switches, Switches.mk.injEq] at hsw
  obtain ⟨h1, h2, h3, h4, h5, h6, h7, h8, h9, h10, h11, h12, h13, h14⟩ := hsw
  exact ⟨h1, h2, h3, h4, h5, h6, h7, h8, h9, h10, h11, h12, h13, h14⟩

theorem space_congr : p.space = q.space := by
  unfold Policy.space; rw [(view_switches h).addSpaces]

omit h in
/-- the scheme lookup of `validURL` lets a URL through exactly when `schemeOK` holds -/
theorem schemeLookup_eq (p : Policy) (u : Url.URL) (x : Bytes) :
    (match p.allowURLSchemes.get? u.scheme with
      | none => if p.allowURLSchemeRegexps.any (·.test u.scheme) then some x else none
      | some policies => if policies.isEmpty then some x else if policies.any (· u) then some x else none) =
    if p.schemeOK u then some x else none := by
  unfold Policy.schemeOK
  cases p.allowURLSchemes.get? u.scheme with
  | none => rfl
  | some pol => cases hh : pol.isEmpty <;> simp only [hh, Bool.false_or, Bool.true_or, ↓reduceIte, Bool.false_eq_true]

theorem validURL_congr (raw : Bytes) : p.validURL raw = q.validURL raw := by
  have hs : ∀ u, p.schemeOK u = q.schemeOK u := fun u => congrFun (congrArg View.schemeOK h) u
  unfold Policy.validURL
  rw [(view_switches h).requireParseableURLs, (view_switches h).allowRelativeURLs]
  -- the two sides now differ in the scheme lookup only: walk down to it
  cases q.requireParseableURLs
  · rfl
  · rw [if_pos rfl, if_pos rfl]
    dsimp only
    split
    · rfl
    · next raw' _ =>
      cases Url.parse raw' with
      | none => rfl
      | some u =>
        dsimp only
        cases (!u.scheme.isEmpty)
        · rfl
        · rw [if_pos rfl, if_pos rfl]
          refine (schemeLookup_eq p u _).trans (.trans ?_ (schemeLookup_eq q u _).symm)
          rw [hs u]

theorem sanitizeStyles_congr (val el : Bytes) : p.sanitizeStyles val el = q.sanitizeStyles val el := by
  have hd : p.declAccepted (p.styleRulesFor el) = q.declAccepted (q.styleRulesFor el) :=
    funext fun dec => congrFun (congrFun (congrArg View.decl h) el) dec
  unfold Policy.sanitizeStyles
  rw [hd]

theorem filterAttr_congr (el : Bytes) (aps aps' : AttrRules) (ha : acceptBy aps = acceptBy aps') (hs : Bool)
    (a : Attr) : p.filterAttr el aps hs a = q.filterAttr el aps' hs a := by
  have e : ∀ (p : Policy) (aps : AttrRules), p.filterAttr el aps hs a =
      if p.allowDataAttributes && isDataAttribute a.key then some a
      else if a.key == b!"style" && hs then
        (let v := p.sanitizeStyles a.val el; if v.isEmpty then none else some ⟨a.key, v⟩)
      else if acceptBy aps a.key a.val then some a
      else if acceptBy p.globalAttrs a.key a.val then some a else none := fun _ _ => rfl
  have hg : acceptBy p.globalAttrs = acceptBy q.globalAttrs := congrArg View.gaccept h
  rw [e p, e q, (view_switches h).allowDataAttributes, sanitizeStyles_congr h, ha, hg]

theorem urlPassAttr_congr (el : Bytes) (a : Attr) : p.urlPassAttr el a = q.urlPassAttr el a := by
  unfold Policy.urlPassAttr
  simp only [validURL_congr h, (view_switches h).srcRewriter]

theorem linkPasses_congr (el : Bytes) (clean : List Attr) : p.linkPasses el clean = q.linkPasses el clean := by
  have hs := view_switches h
  unfold Policy.linkPasses Policy.hardenLinks
  rw [hs.requireNoFollow, hs.requireNoFollowFullyQualifiedLinks, hs.requireNoReferrer,
    hs.requireNoReferrerFullyQualifiedLinks, hs.addTargetBlankToFullyQualifiedLinks, hs.requireParseableURLs,
    show p.urlPassAttr el = q.urlPassAttr el from funext (urlPassAttr_congr h el)]

theorem sanitizeAttrs_congr (el : Bytes) (attrs : List Attr) (aps aps' : AttrRules)
    (ha : acceptBy aps = acceptBy aps') : p.sanitizeAttrs el attrs aps = q.sanitizeAttrs el attrs aps' := by
  have hf : p.filterAttr el aps (p.hasStylePolicies el) = q.filterAttr el aps' (q.hasStylePolicies el) := by
    rw [show p.hasStylePolicies el = q.hasStylePolicies el from congrFun (congrArg View.hasStyle h) el]
    exact funext (filterAttr_congr h el aps aps' ha _)
  unfold Policy.sanitizeAttrs Policy.forceSandbox Policy.forceCrossOrigin
  rw [hf, show p.linkPasses el = q.linkPasses el from funext (linkPasses_congr h el),
    (view_switches h).requireSandboxOnIFrame, (view_switches h).requireCrossOriginAnonymous]

theorem attrRulesFor_congr (el : Bytes) :
    (p.attrRulesFor el = none ∧ q.attrRulesFor el = none) ∨
    ∃ aps aps', p.attrRulesFor el = some aps ∧ q.attrRulesFor el = some aps' ∧ acceptBy aps = acceptBy aps' := by
  have h1 : (p.attrRulesFor el).isSome = (q.attrRulesFor el).isSome := congrFun (congrArg View.rulesSome h) el
  have h2 : ∀ k v, p.acceptFor el k v = q.acceptFor el k v :=
    fun k v => congrFun (congrFun (congrFun (congrArg View.accept h) el) k) v
  cases hp : p.attrRulesFor el with
  | none =>
    cases hq : q.attrRulesFor el with
    | none => exact .inl ⟨rfl, rfl⟩
    | some a => rw [hp, hq] at h1; simp at h1
  | some aps =>
    cases hq : q.attrRulesFor el with
    | none => rw [hp, hq] at h1; simp at h1
    | some aps' =>
      refine .inr ⟨aps, aps', rfl, rfl, ?_⟩
      funext k v
      have := h2 k v
      unfold Policy.acceptFor at this
      rw [hp, hq] at this
      exact this

/-- the two steps that open an element: same rules found, same attributes kept, same decision to skip -/
theorem stepOpen_congr (st : LoopState) (t : Token) :
    p.stepStart st t = q.stepStart st t ∧ p.stepSelfClosing st t = q.stepSelfClosing st t := by
  unfold Policy.stepStart Policy.stepSelfClosing Policy.enterSkip Policy.cleanAttrs
  simp only [(view_switches h).allowUnsafe, space_congr h,
    show p.setOfElementsToSkipContent.contains t.data = q.setOfElementsToSkipContent.contains t.data from
      congrFun (congrArg View.skips h) t.data,
    show p.allowNoAttrs t.data = q.allowNoAttrs t.data from congrFun (congrArg View.noAttrs h) t.data]
  rcases attrRulesFor_congr h t.data with ⟨hp, hq⟩ | ⟨aps, aps', hp, hq, ha⟩
  · simp only [hp, hq, and_self]
  · simp only [hp, hq, sanitizeAttrs_congr h _ _ aps aps' ha, and_self]

theorem stepEnd_congr (st : LoopState) (t : Token) : p.stepEnd st t = q.stepEnd st t := by
  unfold Policy.stepEnd Policy.leaveSkip
  simp only [(view_switches h).allowUnsafe, space_congr h,
    show p.setOfElementsToSkipContent.contains t.data = q.setOfElementsToSkipContent.contains t.data from
      congrFun (congrArg View.skips h) t.data,
    show p.explicitEl t.data = q.explicitEl t.data from congrFun (congrArg View.explicit h) t.data,
    show p.patternEl t.data = q.patternEl t.data from congrFun (congrArg View.pattern h) t.data]

theorem run_congr (st : LoopState) (ts : List Token) : p.run st ts = q.run st ts := by
  induction ts generalizing st with
  | nil => rfl
  | cons t ts ih =>
    unfold Policy.run Policy.step Policy.stepText
    simp only [(view_switches h).allowUnsafe, (view_switches h).allowComments, stepOpen_congr h, stepEnd_congr h, ih]

end congr

/-- C17, the congruence half -/
theorem sanitize_congr (p q : Policy) (h : p.ensureInit.view = q.ensureInit.view) (input : Bytes) :
    p.sanitize input = q.sanitize input := by
  unfold Policy.sanitize Policy.sanitizeCore Policy.sanitizeTokens
  rw [run_congr h]

theorem panics_congr (p q : Policy) (h : p.ensureInit.view = q.ensureInit.view) (input : Bytes) :
    p.panics input = q.panics input := by
  unfold Policy.panics
  rw [run_congr h]

end BM
