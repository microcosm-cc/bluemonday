import BM.Proofs.Step
import BM.Proofs.RtDoc
import BM.Proofs.TokWF
import BM.Proofs.AttrPass
/-
  From writes to bytes.  For a policy without AllowUnsafe, on a token list none of whose raw-text tags the
  policy allows (`PlainOn`), the bytes the sanitiser returns are the serialisation of a list of texts, plain
  tags and comments, so the round trip theorem applies: what an HTML tokenizer reads from the output is that
  list with adjacent texts merged, empty texts dropped and comment data re-read (`sanitizeTokens_roundtripOn`).
  `PlainC` asks the same of every input, `Plain` moreover forbids comments; their theorems are corollaries.
-/
namespace BM
open Html Spec

/-! ### well-formed attribute keys in, well-formed keys out

`sanitizeAttrs` never invents an attribute name: every attribute it returns carries the key of an input
attribute or one of the four fixed keys it adds (rel, target, crossorigin, sandbox).  That is what the
render/tokenize round trip needs of the tags the sanitiser writes. -/

def AllOK (l : List Attr) : Prop := ∀ a ∈ l, AttrOK a

theorem attrOK_key {a b : Attr} (hk : a.key = b.key) (hb : AttrOK b) : AttrOK a := by
  obtain ⟨c, rest, h1, h2, h3⟩ := hb
  exact ⟨c, rest, by rw [hk]; exact h1, h2, h3⟩

theorem attrOK_added (a : Attr) (h : addedKey a.key) : AttrOK a := by
  rcases h with h | h | h | h
  · exact ⟨114, b!"el", h, by decide, by decide⟩
  · exact ⟨116, b!"arget", h, by decide, by decide⟩
  · exact ⟨99, b!"rossorigin", h, by decide, by decide⟩
  · exact ⟨115, b!"andbox", h, by decide, by decide⟩

theorem allOK_sanitizeAttrs (p : Policy) (el : Bytes) (attrs : List Attr) (aps : AttrRules) (out : List Attr)
    (h : AllOK attrs) (hs : p.sanitizeAttrs el attrs aps = some out) : AllOK out := by
  intro b hb
  rcases sanitizeAttrs_mem hs hb with ⟨a, ha, hk, _⟩ | hadd
  · obtain ⟨a0, ha0, hf⟩ := List.mem_filterMap.mp ha
    exact attrOK_key (hk.trans (filterAttr_key p el aps _ a0 a hf)) (h a0 ha0)
  · exact attrOK_added b hadd.addedKey

theorem allOK_cleanAttrs (p : Policy) (t : Token) (aps : AttrRules) (out : List Attr)
    (h : AllOK t.attrs) (hs : p.cleanAttrs t aps = some out) : AllOK out :=
  allOK_sanitizeAttrs p t.data t.attrs aps out h (cleanAttrs_eq p t aps ▸ hs)

/-- the narrowest class: no AllowUnsafe, no comments, no raw-text element allowed -/
structure Plain (p : Policy) : Prop where
  noUnsafe : p.allowUnsafe = false
  noComments : p.allowComments = false
  noRaw : ∀ n, isRawTagName n = true → allowsElement p n = false

/-- `Plain` without the ban on comments -/
structure PlainC (p : Policy) : Prop where
  noUnsafe : p.allowUnsafe = false
  noRaw : ∀ n, isRawTagName n = true → allowsElement p n = false

/-- the hypothesis of the round trip for one run: no AllowUnsafe, and every raw-text tag *of this input*
    names an element the policy does not allow (so no raw-text tag is written) -/
structure PlainOn (p : Policy) (ts : List Token) : Prop where
  noUnsafe : p.allowUnsafe = false
  noRaw : ∀ t ∈ ts, isRawTagName t.data = true → allowsElement p t.data = false

theorem Plain.toC {p : Policy} (h : Plain p) : PlainC p := ⟨h.noUnsafe, h.noRaw⟩

theorem PlainC.on {p : Policy} (h : PlainC p) (ts : List Token) : PlainOn p ts := ⟨h.noUnsafe, fun t _ => h.noRaw t.data⟩

theorem tokWF_of_open {t : Token} (h : TokWF t) (htt : t.tt = .start ∨ t.tt = .selfClosing) :
    NameOK' t.data ∧ ∀ a ∈ t.attrs, AttrOK a := by
  unfold TokWF at h
  rcases htt with e | e <;> (rw [e] at h; exact h)

theorem segOK_open_iff {t : Token} (htt : t.tt = .start ∨ t.tt = .selfClosing) :
    SegOK t ↔ NameOK' t.data ∧ isRawTagName t.data = false ∧ ∀ a ∈ t.attrs, AttrOK a := by
  unfold SegOK
  rcases htt with e | e <;> rw [e]

theorem segOK_of_text {t : Token} (htt : t.tt = .text) : SegOK t := by
  unfold SegOK; rw [htt]; trivial

theorem segOK_of_end {t : Token} (htt : t.tt = .end_) (hwf : TokWF t) : SegOK t := by
  unfold SegOK TokWF at *; rw [htt] at hwf ⊢; exact hwf

theorem not_raw_of_rules {p : Policy} {el : Bytes} {aps : AttrRules} (h : p.attrRulesFor el = some aps)
    (hraw : isRawTagName el = true → allowsElement p el = false) : isRawTagName el = false := by
  cases hr : isRawTagName el with
  | false => rfl
  | true => exact absurd (attrRulesFor_allows' h) (by rw [hraw hr]; decide)

theorem segOK_cleaned {p : Policy} {t : Token} {aps : AttrRules} {attrs : List Attr} (hwf : TokWF t)
    (htt : t.tt = .start ∨ t.tt = .selfClosing) (haps : p.attrRulesFor t.data = some aps)
    (hraw : isRawTagName t.data = true → allowsElement p t.data = false)
    (hc : p.cleanAttrs t aps = some attrs) : SegOK ({ t with attrs := attrs } : Token) :=
  (segOK_open_iff (t := { t with attrs := attrs }) htt).mpr
    ⟨(tokWF_of_open hwf htt).1, not_raw_of_rules haps hraw,
      allOK_cleanAttrs p t aps attrs (tokWF_of_open hwf htt).2 hc⟩

/-- what a written token is, relative to the input token of the iteration -/
def FromToken (p : Policy) (t k : Token) : Prop :=
  SegOK k ∧ ((k.tt = .text ∧ ((k.data = [32] ∧ p.addSpaces = true) ∨ (t.tt = .text ∧ k.data = t.data))) ∨
    (k.tt = t.tt ∧ k.data = t.data ∧ allowsElement p k.data = true ∧ isScriptOrStyle k.data = false))

/-- `FromToken`, or a comment copied from an input comment -/
def FromTokenC (p : Policy) (t k : Token) : Prop :=
  FromToken p t k ∨ (k.tt = .comment ∧ t.tt = .comment ∧ k.data = t.data ∧ p.allowComments = true)

theorem FromTokenC.segOKC {p : Policy} {t k : Token} (h : FromTokenC p t k) : SegOKC k :=
  h.imp (·.1) (·.1)

theorem FromTokenC.plain {p : Policy} {t k : Token} (hc : p.allowComments = false) (h : FromTokenC p t k) :
    FromToken p t k :=
  h.resolve_right fun h' => by rw [hc] at h'; exact absurd h'.2.2.2 (by decide)

theorem render_space : (⟨.text, [32], []⟩ : Token).render = [32] := by decide

/-- `FromTokenC` is `Prov` plus well-formedness of the input token and the fact about written tags -/
theorem fromTokenC_of_prov {p : Policy} {t k : Token}
    (hraw : isRawTagName t.data = true → allowsElement p t.data = false) (hwf : TokWF t) (h : Prov p t k)
    (hx : isTag k = true → allowsElement p k.data = true ∧ isScriptOrStyle k.data = false) : FromTokenC p t k := by
  rcases h with ⟨rfl, hsp⟩ | ⟨rfl, htt | htt | ⟨htt, hc⟩⟩ | ⟨aps, attrs, hr, hc, rfl, htt⟩
  · exact .inl ⟨trivial, .inl ⟨rfl, .inl ⟨rfl, hsp⟩⟩⟩
  · exact .inl ⟨segOK_of_text htt, .inl ⟨htt, .inr ⟨htt, rfl⟩⟩⟩
  · exact .inl ⟨segOK_of_end htt hwf, .inr ⟨rfl, rfl, hx ((isTag_iff _).mpr (.inr (.inl htt)))⟩⟩
  · exact .inr ⟨htt, htt, rfl, hc⟩
  · exact .inl ⟨segOK_cleaned hwf htt hr hraw hc, .inr ⟨rfl, rfl, hx ((isTag_iff _).mpr (htt.elim .inl (.inr ∘ .inr)))⟩⟩

/-- one iteration writes the serialisation of texts, plain tags and comments, each coming from the
    input token -/
theorem emit_toksOn {p : Policy} (hu : p.allowUnsafe = false) {st : LoopState} {t : Token}
    (hraw : isRawTagName t.data = true → allowsElement p t.data = false) (hwf : TokWF t)
    {ws : List Write} (he : Emit p st t ws) :
    ∃ toks : List Token, ws.map (·.data) = toks.map Token.render ∧ ∀ k ∈ toks, FromTokenC p t k :=
  let ⟨toks, htw, hx⟩ := emit_prov hu he
  ⟨toks, htw.1, fun k hk => fromTokenC_of_prov hraw hwf (htw.2 k hk) (hx k hk)⟩

theorem flatten_map_render (toks : List Token) : (toks.map Token.render).flatten = renderAll toks := by
  induction toks with
  | nil => rfl
  | cons t ts ih => simp [renderAll, ih]

theorem sanitizeTokens_of_writes {p : Policy} {ts toks : List Token}
    (h : (p.run {} ts).1.map (·.data) = toks.map Token.render) : p.sanitizeTokens ts = renderAll toks := by
  unfold Policy.sanitizeTokens
  rw [h, flatten_map_render]

theorem tokenize_of_writes {p : Policy} {ts toks : List Token}
    (h : (p.run {} ts).1.map (·.data) = toks.map Token.render) (hseg : ∀ k ∈ toks, SegOKC k) :
    tokenize (p.sanitizeTokens ts) = coalesce [] (toks.map reread) := by
  rw [sanitizeTokens_of_writes h]
  exact tokenize_renderAllC toks hseg

theorem sanitizeTokens_roundtripOn {p : Policy} (ts : List Token) (hp : PlainOn p ts) (hwf : ∀ t ∈ ts, TokWF t) :
    ∃ toks : List Token, p.sanitizeTokens ts = renderAll toks ∧
      tokenize (p.sanitizeTokens ts) = coalesce [] (toks.map reread) ∧
      ∀ k ∈ toks, SegOKC k ∧ ∃ t ∈ ts, FromTokenC p t k := by
  obtain ⟨toks, hr, hf⟩ := run_lift (R := FromTokenC p) ts
    (fun t ht _ _ he => emit_toksOn hp.noUnsafe (hp.noRaw t ht) (hwf t ht) he) {}
  have hseg : ∀ k ∈ toks, SegOKC k := fun k hk => let ⟨_, _, h⟩ := hf k hk; h.segOKC
  exact ⟨toks, sanitizeTokens_of_writes hr, tokenize_of_writes hr hseg, fun k hk => ⟨hseg k hk, hf k hk⟩⟩

/-- a token the round trip covers, other than a text, is a tag -/
theorem segOK_isTag {k : Token} (hs : SegOK k) (hne : k.tt ≠ .text) : isTag k = true := by
  unfold SegOK at hs
  rw [isTag_iff]
  cases htt : k.tt with
  | text => exact absurd htt hne
  | comment => rw [htt] at hs; exact hs.elim
  | doctype => rw [htt] at hs; exact hs.elim
  | _ => simp

/-- what a token read back from the returned bytes is: a text, an allowed comment, or a tag of an allowed
    element other than script/style -/
theorem reread_tokenOn (p : Policy) (input : Bytes) (hp : PlainOn p.ensureInit (tokenize input)) :
    ∀ k ∈ tokenize (p.sanitizeCore input),
      k.tt = .text ∨ (k.tt = .comment ∧ p.ensureInit.allowComments = true) ∨
      (isTag k = true ∧ allowsElement p.ensureInit k.data = true ∧ isScriptOrStyle k.data = false) := by
  intro k hk
  obtain ⟨toks, _, hrt, hf⟩ := sanitizeTokens_roundtripOn (tokenize input) hp (tokenize_wf input)
  unfold Policy.sanitizeCore at hk
  rw [hrt] at hk
  rcases mem_coalesce (toks.map reread) [] k hk with h | ⟨hmem, hne⟩
  · exact .inl h.1
  · obtain ⟨k', hk', rfl⟩ := List.mem_map.mp hmem
    obtain ⟨_, t, _, hor⟩ := hf k' hk'
    rw [reread_tt] at hne ⊢
    rcases hor with ⟨hs, h | ⟨_, _, hall, hss⟩⟩ | ⟨hc, _, _, hac⟩
    · exact absurd h.1 hne
    · rw [reread_of_ne k' (segOK_ne_comment hs)]
      exact .inr (.inr ⟨segOK_isTag hs hne, hall, hss⟩)
    · exact .inr (.inl ⟨hc, hac⟩)

theorem sanitizeTokens_roundtripC {p : Policy} (hp : PlainC p) (ts : List Token) (hwf : ∀ t ∈ ts, TokWF t) :
    ∃ toks : List Token, p.sanitizeTokens ts = renderAll toks ∧
      tokenize (p.sanitizeTokens ts) = coalesce [] (toks.map reread) ∧
      ∀ k ∈ toks, SegOKC k ∧ ∃ t ∈ ts, FromTokenC p t k :=
  sanitizeTokens_roundtripOn ts (hp.on ts) hwf

theorem sanitizeTokens_roundtrip {p : Policy} (hp : Plain p) (ts : List Token) (hwf : ∀ t ∈ ts, TokWF t) :
    ∃ toks : List Token, p.sanitizeTokens ts = renderAll toks ∧
      tokenize (p.sanitizeTokens ts) = coalesce [] toks ∧
      ∀ k ∈ toks, ∃ t ∈ ts, FromToken p t k := by
  obtain ⟨toks, hb, hrt, hf⟩ := sanitizeTokens_roundtripC hp.toC ts hwf
  have hf' : ∀ k ∈ toks, ∃ t ∈ ts, FromToken p t k := fun k hk =>
    let ⟨_, t, ht, h⟩ := hf k hk; ⟨t, ht, h.plain hp.noComments⟩
  rw [map_reread_id fun k hk => let ⟨_, _, h⟩ := hf' k hk; segOK_ne_comment h.1] at hrt
  exact ⟨toks, hb, hrt, hf'⟩

end BM
