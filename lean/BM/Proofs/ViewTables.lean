import BM.Proofs.Congr
import BM.Proofs.Tables
/-
  For C17 (`C17_view_of_tables`: the view of a policy is a function of its tables read as sets, its switches,
  skip set and scheme registrations): each question the filter asks of the tables, answered from the set
  reading.  The two readings coincide only on well-formed tables (`Policy.WF`): compiled patterns are identified
  by their identity (one identity, one `MatchString`), a pattern occurs once as a key, an attribute / property
  occurs once as a key of the inner Go maps of the two pattern tables, and a style table holds no empty rule list.  `WF` is an invariant
  of the builder API (`wf_applyOps_any`, Proofs/WFBuild).
-/
namespace BM
open Html

theorem mem_entry_iff {α : Type} (m : Map Bytes (List α)) (hnd : (m.map (·.1)).Nodup) (k : Bytes) (x : α) :
    (∃ kv ∈ m, kv.1 = k ∧ x ∈ kv.2) ↔ x ∈ rulesOf m k := by
  unfold rulesOf
  constructor
  · rintro ⟨⟨k', v⟩, hm, rfl, hx⟩
    rw [Map.get?_of_mem_nodup m hnd _ _ hm]
    exact hx
  · intro hx
    cases hg : m.get? k with
    | none => rw [hg] at hx; simp at hx
    | some v =>
      rw [hg] at hx
      exact ⟨(k, v), Map.mem_of_get? m k v hg, rfl, hx⟩

/-- `for k, v := range rules { acc[k] = append(acc[k], v...) }` -/
def mergeInto {α : Type} (acc rules : Map Bytes (List α)) : Map Bytes (List α) :=
  rules.foldl (fun acc kv => acc.update kv.1 [] (· ++ kv.2)) acc

theorem mem_mergeInto {α : Type} (rules acc : Map Bytes (List α)) (k : Bytes) (x : α) :
    x ∈ rulesOf (mergeInto acc rules) k ↔ x ∈ rulesOf acc k ∨ ∃ kv ∈ rules, kv.1 = k ∧ x ∈ kv.2 :=
  foldl_iff (fun (acc : Map Bytes (List α)) (kv : Bytes × List α) => acc.update kv.1 [] (· ++ kv.2)) (x ∈ rulesOf · k)
    (fun kv => kv.1 = k ∧ x ∈ kv.2) (fun acc kv => Map.mem_listAt_append acc kv.1 k kv.2 x) rules acc

theorem mem_mergeAll {α : Type} (hits : List (Pat × Map Bytes (List α))) (acc : Map Bytes (List α)) (k : Bytes) (x : α) :
    x ∈ rulesOf (hits.foldl (fun acc e => mergeInto acc e.2) acc) k ↔
      x ∈ rulesOf acc k ∨ ∃ e ∈ hits, ∃ kv ∈ e.2, kv.1 = k ∧ x ∈ kv.2 :=
  foldl_iff (fun (acc : Map Bytes (List α)) (e : Pat × Map Bytes (List α)) => mergeInto acc e.2) (x ∈ rulesOf · k)
    (fun e => ∃ kv ∈ e.2, kv.1 = k ∧ x ∈ kv.2) (fun acc e => mem_mergeInto e.2 acc k x) hits acc

theorem patGet?_of_mem {ν : Type} (m : List (Pat × ν)) (hnd : (m.map (·.1.id)).Nodup) (e : Pat × ν) (he : e ∈ m) :
    patGet? m e.1 = some e.2 := by
  rw [patGet?_eq]
  rw [← keys_patKey] at hnd
  exact Map.get?_of_mem_nodup _ hnd _ _ (List.mem_map.mpr ⟨e, he, rfl⟩)

theorem mem_of_patGet? {ν : Type} (m : List (Pat × ν)) (r : Pat) (v : ν) (h : patGet? m r = some v) :
    ∃ e ∈ m, e.1.id = r.id ∧ e.2 = v := by
  rw [patGet?_eq] at h
  obtain ⟨e, he, heq⟩ := List.mem_map.mp (Map.mem_of_get? _ _ _ h)
  exact ⟨e, he, congrArg Prod.fst heq, congrArg Prod.snd heq⟩

/-- `P` is what the filter asks of a matching entry, `Q` the same question put to the value got by identity -/
theorem pat_entry_iff {α : Type} (T : Nat → Bytes → Bool) (m : List (Pat × List α)) (hids : (m.map (·.1.id)).Nodup)
    (htest : ∀ e ∈ m, e.1.test = T e.1.id) (el : Bytes) (P Q : List α → Prop) (hPQ : ∀ e ∈ m, P e.2 ↔ Q e.2)
    (hQ : ¬ Q []) :
    (∃ e ∈ m, e.1.test el = true ∧ P e.2) ↔ ∃ r : Pat, T r.id el = true ∧ Q ((patGet? m r).getD []) := by
  constructor
  · rintro ⟨e, he, ht, hp⟩
    refine ⟨e.1, by rw [← htest e he]; exact ht, ?_⟩
    rw [patGet?_of_mem m hids e he]
    exact (hPQ e he).mp hp
  · rintro ⟨r, ht, hq⟩
    cases hg : patGet? m r with
    | none => rw [hg] at hq; exact absurd hq hQ
    | some v =>
      rw [hg] at hq
      obtain ⟨e, he, hid, hv⟩ := mem_of_patGet? m r v hg
      exact ⟨e, he, by rw [htest e he, hid]; exact ht, (hPQ e he).mpr (hv ▸ hq)⟩

theorem pattern_entries_iff {α : Type} (T : Nat → Bytes → Bool) (m : List (Pat × Map Bytes (List α)))
    (hids : (m.map (·.1.id)).Nodup) (hkeys : ∀ e ∈ m, (e.2.map (·.1)).Nodup) (htest : ∀ e ∈ m, e.1.test = T e.1.id)
    (el k : Bytes) (x : α) :
    (∃ e ∈ m.filter (fun e => e.1.test el), ∃ kv ∈ e.2, kv.1 = k ∧ x ∈ kv.2) ↔
      ∃ r : Pat, T r.id el = true ∧ x ∈ rulesOf ((patGet? m r).getD []) k := by
  simp only [List.mem_filter, and_assoc]
  exact pat_entry_iff T m hids htest el (fun v => ∃ kv ∈ v, kv.1 = k ∧ x ∈ kv.2) (x ∈ rulesOf · k)
    (fun e he => mem_entry_iff e.2 (hkeys e he) k x) List.not_mem_nil

theorem pattern_any_iff {ν : Type} (T : Nat → Bytes → Bool) (m : List (Pat × ν)) (hids : (m.map (·.1.id)).Nodup)
    (htest : ∀ e ∈ m, e.1.test = T e.1.id) (el : Bytes) :
    (∃ e ∈ m, e.1.test el = true) ↔ ∃ r : Pat, T r.id el = true ∧ (patGet? m r).isSome = true := by
  constructor
  · rintro ⟨e, he, ht⟩
    exact ⟨e.1, by rw [← htest e he]; exact ht, by rw [patGet?_of_mem m hids e he]; rfl⟩
  · rintro ⟨r, ht, hs⟩
    obtain ⟨v, hg⟩ := Option.isSome_iff_exists.mp hs
    obtain ⟨e, he, hid, _⟩ := mem_of_patGet? m r v hg
    exact ⟨e, he, by rw [htest e he, hid]; exact ht⟩

/-- `T id s` is what the compiled pattern with identity `id` answers on `s` (`MatchString`): in Go a `*regexp.Regexp`
    key is one compiled pattern, so all table entries with one identity behave alike; the model's `Pat` carries
    identity and behaviour separately, and `WF T` says they agree with `T` -/
structure Policy.WF (T : Nat → Bytes → Bool) (p : Policy) : Prop where
  idsA : (p.elsMatchingAndAttrs.map (·.1.id)).Nodup
  idsS : (p.elsMatchingAndStyles.map (·.1.id)).Nodup
  keysA : ∀ e ∈ p.elsMatchingAndAttrs, (e.2.map (·.1)).Nodup
  keysS : ∀ e ∈ p.elsMatchingAndStyles, (e.2.map (·.1)).Nodup
  testA : ∀ e ∈ p.elsMatchingAndAttrs, e.1.test = T e.1.id
  testS : ∀ e ∈ p.elsMatchingAndStyles, e.1.test = T e.1.id
  testB : ∀ r ∈ p.setOfElementsMatchingAllowedWithoutAttrs, r.test = T r.id
  testU : ∀ r ∈ p.allowURLSchemeRegexps, r.test = T r.id
  neES : ∀ e ∈ p.elsAndStyles, ∀ kv ∈ e.2, kv.2 ≠ []
  neMS : ∀ e ∈ p.elsMatchingAndStyles, ∀ kv ∈ e.2, kv.2 ≠ []
  neGS : ∀ kv ∈ p.globalStyles, kv.2 ≠ []

def okA (x : AttrPolicy) (v : Bytes) : Bool :=
  match x with
  | none => true
  | some r => r.test v

theorem acceptBy_iff (aps : AttrRules) (k v : Bytes) :
    acceptBy aps k v = true ↔ ∃ x ∈ rulesOf aps k, okA x v = true := by
  unfold acceptBy rulesOf
  cases h : aps.get? k with
  | none => simp
  | some apl =>
    simp only [attrPoliciesAccept, List.any_eq_true, Option.getD_some]
    exact Iff.rfl

theorem matchRegex_eq (p : Policy) (el : Bytes) : p.matchRegex el =
    (let hits := p.elsMatchingAndAttrs.filter fun e => e.1.test el
     if hits.isEmpty then none else some (hits.foldl (fun acc e => mergeInto acc e.2) [])) := rfl

theorem filter_isEmpty_iff {α : Type} (l : List α) (f : α → Bool) :
    (l.filter f).isEmpty = false ↔ ∃ e ∈ l, f e = true := by
  simp only [List.isEmpty_eq_false_iff_exists_mem, List.mem_filter]

theorem any_test_iff (T : Nat → Bytes → Bool) (l : List Pat) (hl : ∀ r ∈ l, r.test = T r.id) (x : Bytes) :
    (∃ r ∈ l, r.test x = true) ↔ ∃ id, (∃ q ∈ l, q.id = id) ∧ T id x = true :=
  ⟨fun ⟨r, hr, ht⟩ => ⟨r.id, ⟨r, hr, rfl⟩, by rw [← hl r hr]; exact ht⟩,
   fun ⟨_, ⟨r, hr, hid⟩, ht⟩ => ⟨r, hr, by rw [hl r hr, hid]; exact ht⟩⟩

theorem matchRegex_isSome (p : Policy) (el : Bytes) :
    (p.matchRegex el).isSome = true ↔ ∃ e ∈ p.elsMatchingAndAttrs, e.1.test el = true := by
  rw [matchRegex_eq, ← filter_isEmpty_iff]
  simp only
  split <;> rename_i h
  · simp only [Option.isSome_none, Bool.false_eq_true, h, Bool.true_eq_false]
  · simp only [Option.isSome_some, Bool.eq_false_iff.mpr h]

section readings
variable (T : Nat → Bytes → Bool) (p : Policy) (hw : p.WF T)
include hw

theorem rulesSome_iff (el : Bytes) :
    (p.attrRulesFor el).isSome = true ↔ p.hasElem el ∨ ∃ r : Pat, T r.id el = true ∧ p.hasPattern r := by
  unfold Policy.attrRulesFor Policy.hasElem Policy.hasPattern
  cases hg : p.elsAndAttrs.get? el with
  | some aps => simp only [Option.isSome_some, true_or]
  | none =>
    simp only [Option.isSome_none, Bool.false_eq_true, false_or]
    rw [matchRegex_isSome, pattern_any_iff T _ hw.idsA hw.testA el]

theorem accept_iff (el k v : Bytes) :
    p.acceptFor el k v = true ↔
      (p.hasElem el ∧ ∃ x ∈ p.elemRules el k, okA x v = true) ∨
      (¬ p.hasElem el ∧ ∃ r : Pat, T r.id el = true ∧ ∃ x ∈ p.matchRules r k, okA x v = true) := by
  unfold Policy.acceptFor Policy.attrRulesFor Policy.hasElem Policy.elemRules Policy.matchRules
  cases hg : p.elsAndAttrs.get? el with
  | some aps =>
    simp only [Option.isSome_some, true_and, not_true_eq_false, false_and, or_false, acceptBy_iff]
    simp only [rulesOf, hg, Option.getD_some]
  | none =>
    simp only [Option.isSome_none, Bool.false_eq_true, false_and, not_false_eq_true, true_and, false_or]
    rw [matchRegex_eq]
    have hpe := pattern_entries_iff T p.elsMatchingAndAttrs hw.idsA hw.keysA hw.testA el k
    simp only
    cases he : (p.elsMatchingAndAttrs.filter fun e => e.1.test el).isEmpty with
    | true =>
      simp only [↓reduceIte, Bool.false_eq_true, false_iff]
      rintro ⟨r, ht, x, hx, _⟩
      obtain ⟨e, hmem, _⟩ := (hpe x).mpr ⟨r, ht, hx⟩
      have : (p.elsMatchingAndAttrs.filter fun e => e.1.test el) = [] := by simpa using he
      rw [this] at hmem; simp at hmem
    | false =>
      simp only [Bool.false_eq_true, ↓reduceIte, acceptBy_iff]
      constructor
      · rintro ⟨x, hx, hok⟩
        rw [mem_mergeAll] at hx
        rcases hx with hx | hx
        · simp [rulesOf, Map.get?] at hx
        · obtain ⟨r, ht, hr⟩ := (hpe x).mp hx
          exact ⟨r, ht, x, hr, hok⟩
      · rintro ⟨r, ht, x, hx, hok⟩
        refine ⟨x, ?_, hok⟩
        rw [mem_mergeAll]
        exact .inr ((hpe x).mpr ⟨r, ht, hx⟩)

theorem noAttrs_iff (el : Bytes) :
    p.allowNoAttrs el = true ↔ p.bareOK el ∨ ∃ id, p.bareOKPattern id ∧ T id el = true := by
  unfold Policy.allowNoAttrs Policy.bareOK Policy.bareOKPattern
  simp only [Bool.or_eq_true, List.contains_iff_mem, List.any_eq_true]
  exact or_congr_right (any_test_iff T _ hw.testB el)

theorem pattern_iff (el : Bytes) :
    p.patternEl el = true ↔ ¬ p.hasElem el ∧ ∃ r : Pat, T r.id el = true ∧ p.hasPattern r := by
  unfold Policy.patternEl Policy.hasPattern
  rw [← pattern_any_iff T _ hw.idsA hw.testA el]
  simp only [Bool.and_eq_true, Bool.not_eq_true', List.any_eq_true]
  have : p.explicitEl el = false ↔ ¬ p.hasElem el := by
    unfold Policy.explicitEl Policy.hasElem Map.contains
    simp
  rw [this]

end readings

def okS (sp : StylePolicy) (v : Bytes) : Bool :=
  match sp.handler with
  | some h => h v
  | none =>
    if sp.enum.length > 0 then stringInSlice v sp.enum
    else match sp.re with
      | some r => r.test v
      | none => false

def acceptS (m : StyleRules) (k v : Bytes) : Bool :=
  match m.get? k with
  | some spl => stylePoliciesAccept spl v
  | none => false

theorem acceptS_iff (m : StyleRules) (k v : Bytes) : acceptS m k v = true ↔ ∃ sp ∈ rulesOf m k, okS sp v = true := by
  unfold acceptS rulesOf
  cases h : m.get? k with
  | none => simp
  | some spl =>
    simp only [stylePoliciesAccept, List.any_eq_true, Option.getD_some]
    exact Iff.rfl

theorem styleRulesFor_eq (p : Policy) (el : Bytes) : p.styleRulesFor el =
    (let sps := (p.elsAndStyles.get? el).getD []
     if sps.length == 0 then
       (p.elsMatchingAndStyles.filter fun e => e.1.test el).foldl (fun acc e => mergeInto acc e.2) []
     else sps) := rfl

theorem nonempty_iff_exists {α : Type} (m : Map Bytes (List α)) (hne : ∀ kv ∈ m, kv.2 ≠ []) :
    m.length > 0 ↔ ∃ k x, x ∈ rulesOf m k := by
  constructor
  · intro hl
    match m, hne, hl with
    | (k, l) :: rest, hne, _ =>
      have hl : l ≠ [] := hne (k, l) List.mem_cons_self
      obtain ⟨x, hx⟩ := List.exists_mem_of_ne_nil l hl
      exact ⟨k, x, by simp [rulesOf, Map.get?, hx]⟩
  · rintro ⟨k, x, hx⟩
    cases m with
    | nil => simp [rulesOf, Map.get?] at hx
    | cons a rest => simp

def Policy.hasElemStyle (p : Policy) (el : Bytes) : Prop := ∃ prop x, x ∈ p.elemStyleRules el prop

theorem declAccepted_iff (p : Policy) (sps : StyleRules) (dec : Css.Decl) :
    p.declAccepted sps dec = true ↔
      ∃ tv, removeUnicode (toLowerGo dec.value) = some tv ∧
        ((∃ sp ∈ rulesOf sps (trimPrefixes (toLowerGo dec.property) vendorPrefixes), okS sp tv = true) ∨
         (∃ sp ∈ p.globalStyleRules (trimPrefixes (toLowerGo dec.property) vendorPrefixes), okS sp tv = true)) := by
  have e : p.declAccepted sps dec =
      match removeUnicode (toLowerGo dec.value) with
      | none => false
      | some tv => acceptS sps (trimPrefixes (toLowerGo dec.property) vendorPrefixes) tv ||
          acceptS p.globalStyles (trimPrefixes (toLowerGo dec.property) vendorPrefixes) tv := rfl
  rw [e]
  cases removeUnicode (toLowerGo dec.value) with
  | none => simp
  | some tv =>
    simp only [Bool.or_eq_true, acceptS_iff, Option.some.injEq, exists_eq_left', Policy.globalStyleRules]

section styleReadings
variable (T : Nat → Bytes → Bool) (p : Policy) (hw : p.WF T)
include hw

theorem elemStyle_nonempty_iff (el : Bytes) :
    ((p.elsAndStyles.get? el).getD []).length > 0 ↔ p.hasElemStyle el := by
  unfold Policy.hasElemStyle Policy.elemStyleRules
  have : rulesOf p.elsAndStyles el = (p.elsAndStyles.get? el).getD [] := rfl
  rw [this]
  apply nonempty_iff_exists
  cases hg : p.elsAndStyles.get? el with
  | none => simp
  | some sps => exact hw.neES (el, sps) (Map.mem_of_get? _ _ _ hg)

theorem styleRulesFor_mem (el prop : Bytes) (x : StylePolicy) :
    x ∈ rulesOf (p.styleRulesFor el) prop ↔
      (p.hasElemStyle el ∧ x ∈ p.elemStyleRules el prop) ∨
      (¬ p.hasElemStyle el ∧ ∃ r : Pat, T r.id el = true ∧ x ∈ p.matchStyleRules r prop) := by
  rw [styleRulesFor_eq]
  simp only
  have hne := elemStyle_nonempty_iff T p hw el
  by_cases hl : ((p.elsAndStyles.get? el).getD []).length > 0
  · have h1 : p.hasElemStyle el := hne.mp hl
    have h2 : (((p.elsAndStyles.get? el).getD []).length == 0) = false := by
      simp only [beq_eq_false_iff_ne, ne_eq]; omega
    simp only [h2, Bool.false_eq_true, ↓reduceIte, h1, true_and, not_true_eq_false, false_and, or_false]
    rfl
  · have h1 : ¬ p.hasElemStyle el := fun hh => hl (hne.mpr hh)
    have h2 : (((p.elsAndStyles.get? el).getD []).length == 0) = true := by
      simp only [beq_iff_eq]; omega
    simp only [h2, ↓reduceIte, h1, false_and, not_false_eq_true, true_and, false_or]
    rw [mem_mergeAll, pattern_entries_iff T p.elsMatchingAndStyles hw.idsS hw.keysS hw.testS el prop x]
    simp only [rulesOf, Map.get?, Option.getD_none, List.not_mem_nil, false_or]
    rfl

theorem decl_iff (el : Bytes) (dec : Css.Decl) :
    p.declAccepted (p.styleRulesFor el) dec = true ↔
      ∃ tv, removeUnicode (toLowerGo dec.value) = some tv ∧
        (((p.hasElemStyle el ∧ ∃ sp ∈ p.elemStyleRules el (trimPrefixes (toLowerGo dec.property) vendorPrefixes),
              okS sp tv = true) ∨
          (¬ p.hasElemStyle el ∧ ∃ r : Pat, T r.id el = true ∧
              ∃ sp ∈ p.matchStyleRules r (trimPrefixes (toLowerGo dec.property) vendorPrefixes), okS sp tv = true)) ∨
         (∃ sp ∈ p.globalStyleRules (trimPrefixes (toLowerGo dec.property) vendorPrefixes), okS sp tv = true)) := by
  rw [declAccepted_iff]
  apply exists_congr
  intro tv
  apply and_congr_right
  intro _
  apply or_congr_left
  simp only [styleRulesFor_mem T p hw]
  constructor
  · rintro ⟨sp, (⟨h1, h2⟩ | ⟨h1, r, ht, h2⟩), hok⟩
    · exact .inl ⟨h1, sp, h2, hok⟩
    · exact .inr ⟨h1, r, ht, sp, h2, hok⟩
  · rintro (⟨h1, sp, h2, hok⟩ | ⟨h1, r, ht, sp, h2, hok⟩)
    · exact ⟨sp, .inl ⟨h1, h2⟩, hok⟩
    · exact ⟨sp, .inr ⟨h1, r, ht, h2⟩, hok⟩

theorem hasStyle_iff (el : Bytes) :
    p.hasStylePolicies el = true ↔
      (∃ prop x, x ∈ p.globalStyleRules prop) ∨ p.hasElemStyle el ∨
      ∃ r : Pat, T r.id el = true ∧ ∃ prop x, x ∈ p.matchStyleRules r prop := by
  have e : p.hasStylePolicies el =
      (decide (p.globalStyles.length > 0) ||
       (match p.elsAndStyles.get? el with | some sps => decide (sps.length > 0) | none => false) ||
       p.elsMatchingAndStyles.any fun e => e.1.test el && decide (e.2.length > 0)) := rfl
  rw [e]
  simp only [Bool.or_eq_true, decide_eq_true_eq, or_assoc]
  apply or_congr
  · exact nonempty_iff_exists _ hw.neGS
  apply or_congr
  · rw [← elemStyle_nonempty_iff T p hw el]
    cases p.elsAndStyles.get? el <;> simp
  · simp only [List.any_eq_true, Bool.and_eq_true, decide_eq_true_eq, Policy.matchStyleRules]
    exact pat_entry_iff T _ hw.idsS hw.testS el (·.length > 0) (fun v => ∃ prop x, x ∈ rulesOf v prop)
      (fun e he => nonempty_iff_exists e.2 (hw.neMS e he)) (fun ⟨_, _, h⟩ => nomatch h)

theorem schemeOK_iff (u : Url.URL) :
    p.schemeOK u = true ↔
      match p.allowURLSchemes.get? u.scheme with
      | none => ∃ id, p.schemePattern id ∧ T id u.scheme = true
      | some policies => policies.isEmpty = true ∨ ∃ f ∈ policies, f u = true := by
  unfold Policy.schemeOK Policy.schemePattern
  cases p.allowURLSchemes.get? u.scheme with
  | none =>
    simp only [List.any_eq_true]
    exact any_test_iff T _ hw.testU _
  | some policies => simp only [Bool.or_eq_true, List.any_eq_true]

end styleReadings

end BM
