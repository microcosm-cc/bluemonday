import BM.Proofs.ViewTables
import BM.Shipped
/-
  `Policy.WF` is an invariant of the builder API: every history of builder calls whose element
  and scheme patterns have one `MatchString` per identity, applied to a well-formed policy (in
  particular to `NewPolicy()`), gives a well-formed policy (`wf_applyOps_any`; `wf_applyOps` for an initialised start).
-/
namespace BM

open Map (KeysNodup)

def ListsNonempty {α : Type} (m : Map Bytes (List α)) : Prop := ∀ kv ∈ m, kv.2 ≠ []

theorem append_listsNonempty {α : Type} (m : Map Bytes (List α)) (k : Bytes) (x : α) (h : ListsNonempty m) :
    ListsNonempty (m.update k [] (· ++ [x])) := by
  intro kv hkv
  rcases Map.mem_set _ _ _ _ hkv with h1 | h1
  · rw [h1]; exact List.append_ne_nil_of_right_ne_nil _ (List.cons_ne_nil x [])
  · exact h kv h1

theorem listsNonempty_nil {α : Type} : ListsNonempty ([] : Map Bytes (List α)) := fun _ h => nomatch h

theorem mem_patSet {ν : Type} (m : List (Pat × ν)) (r : Pat) (v : ν) (e : Pat × ν) (h : e ∈ patSet m r v) :
    e ∈ m ∨ (e.2 = v ∧ (e.1 = r ∨ ∃ w, (e.1, w) ∈ m)) := by
  induction m with
  | nil => exact .inr (List.mem_singleton.mp h ▸ ⟨rfl, .inl rfl⟩)
  | cons a rest ih =>
    obtain ⟨q, w⟩ := a
    unfold patSet at h
    split at h
    · rcases List.mem_cons.mp h with h | h
      · exact .inr (h ▸ ⟨rfl, .inr ⟨w, List.mem_cons_self⟩⟩)
      · exact .inl (List.mem_cons_of_mem _ h)
    · rcases List.mem_cons.mp h with h | h
      · exact .inl (h ▸ List.mem_cons_self)
      · exact (ih h).imp (List.mem_cons_of_mem _) fun ⟨h1, h3⟩ =>
          ⟨h1, h3.imp_right fun ⟨w', hw⟩ => ⟨w', List.mem_cons_of_mem _ hw⟩⟩

structure PatOK {β : Type} (T : Nat → Bytes → Bool) (P : β → Prop) (m : List (Pat × β)) : Prop where
  ids : (m.map (·.1.id)).Nodup
  test : ∀ e ∈ m, e.1.test = T e.1.id
  inner : ∀ e ∈ m, P e.2

theorem PatOK.nil {β : Type} (T : Nat → Bytes → Bool) (P : β → Prop) : PatOK T P ([] : List (Pat × β)) :=
  ⟨List.nodup_nil, fun _ h => by simp at h, fun _ h => by simp at h⟩

theorem PatOK.patSet {β : Type} {T : Nat → Bytes → Bool} {P : β → Prop} {m : List (Pat × β)} (h : PatOK T P m)
    (r : Pat) (v : β) (hr : r.test = T r.id) (hv : P v) : PatOK T P (patSet m r v) := by
  refine ⟨?_, ?_, ?_⟩
  · have hids := h.ids
    rw [← keys_patKey] at hids ⊢
    rw [patKey_patSet]
    exact Map.set_keysNodup _ _ _ hids
  · intro e he
    rcases mem_patSet m r v e he with h1 | ⟨_, h3 | ⟨w, h3⟩⟩
    · exact h.test e h1
    · rw [h3]; exact hr
    · exact h.test (e.1, w) h3
  · intro e he
    rcases mem_patSet m r v e he with h1 | ⟨h1, _⟩
    · exact h.inner e h1
    · rw [h1]; exact hv

theorem patGetD_of_all {β : Type} {P : β → Prop} {m : List (Pat × β)} (h : ∀ e ∈ m, P e.2)
    (r : Pat) (dflt : β) (hd : P dflt) : P ((patGet? m r).getD dflt) := by
  cases hg : patGet? m r with
  | none => exact hd
  | some v =>
    obtain ⟨e, he, _, hv⟩ := mem_of_patGet? m r v hg
    simp only [Option.getD_some]
    rw [← hv]; exact h e he

def StyleInner (m : StyleRules) : Prop := KeysNodup m ∧ ListsNonempty m

/-- `WF`, table by table -/
structure Policy.WFTables (T : Nat → Bytes → Bool) (p : Policy) : Prop where
  matchAttrs : PatOK T (KeysNodup (ν := List AttrPolicy)) p.elsMatchingAndAttrs
  matchStyles : PatOK T StyleInner p.elsMatchingAndStyles
  bare : ∀ r ∈ p.setOfElementsMatchingAllowedWithoutAttrs, r.test = T r.id
  schemes : ∀ r ∈ p.allowURLSchemeRegexps, r.test = T r.id
  elemStyles : ∀ e ∈ p.elsAndStyles, ListsNonempty e.2
  globalStyles : ListsNonempty p.globalStyles

theorem wf_iff (T : Nat → Bytes → Bool) (p : Policy) : p.WF T ↔ p.WFTables T :=
  ⟨fun h => ⟨⟨h.idsA, h.testA, h.keysA⟩, ⟨h.idsS, h.testS, fun e he => ⟨h.keysS e he, h.neMS e he⟩⟩, h.testB, h.testU,
      h.neES, h.neGS⟩,
   fun ⟨a, s, b, u, es, gs⟩ =>
    ⟨a.ids, s.ids, a.inner, fun e he => (s.inner e he).1, a.test, s.test, b, u, es, fun e he => (s.inner e he).2, gs⟩⟩

/-- `WF` reads six tables: a policy that agrees with a well-formed one on them is well formed -/
theorem wfTables_of_agree {T : Nat → Bytes → Bool} {w : Fld → Bool} {p q : Policy} (h : AgreeOff w p q) (hw : p.WFTables T)
    (h1 : w .elsMatchingAndAttrs = false) (h2 : w .elsMatchingAndStyles = false)
    (h3 : w .setOfElementsMatchingAllowedWithoutAttrs = false) (h4 : w .allowURLSchemeRegexps = false)
    (h5 : w .elsAndStyles = false) (h6 : w .globalStyles = false) : q.WFTables T := by
  obtain ⟨a, s, b, u, es, gs⟩ := hw
  constructor
  · rwa [h.elsMatchingAndAttrs h1]
  · rwa [h.elsMatchingAndStyles h2]
  · rwa [h.setOfElementsMatchingAllowedWithoutAttrs h3]
  · rwa [h.allowURLSchemeRegexps h4]
  · rwa [h.elsAndStyles h5]
  · rwa [h.globalStyles h6]

/-- the element and scheme patterns of a call follow `T` (value patterns are not constrained) -/
def BuilderOp.patsOK (T : Nat → Bytes → Bool) : BuilderOp → Prop
  | .allowElementsMatching r => r.test = T r.id
  | .allowAttrs _ _ _ (.onElementsMatching r) => r.test = T r.id
  | .allowStyles _ _ (.onElementsMatching r) => r.test = T r.id
  | .allowURLSchemesMatching r => r.test = T r.id
  | _ => True

theorem wfTables_applyOpInit (T : Nat → Bytes → Bool) (d : Bytes → Bytes → Bool) (p : Policy) (hw : p.WFTables T)
    (op : BuilderOp) (hop : op.patsOK T) : (applyOpInit d p op).WFTables T := by
  cases op
  case' allowAttrs names re ae scope => cases scope
  case' allowStyles names m scope => cases scope
  case allowElementsMatching r =>
    simp only [applyOpInit]
    split
    · exact hw
    · exact { hw with matchAttrs := hw.matchAttrs.patSet r [] hop List.nodup_nil }
  case allowAttrs.onElementsMatching r =>
    -- with `AllowNoAttrs` the call first does what it does without
    have hfold : (applyOpInit d p (.allowAttrs names re false (.onElementsMatching r))).WFTables T :=
      foldl_inv _ (Policy.WFTables T) (fun b a hb => ?_) _ p hw
    · cases ae
      · exact hfold
      · refine { hfold with matchAttrs := ?_, bare := List.forall_mem_append.mpr ⟨hfold.bare, List.forall_mem_singleton.mpr hop⟩ }
        simp only [applyOpInit, ↓reduceIte]
        split
        · exact hfold.matchAttrs
        · exact hfold.matchAttrs.patSet r [] hop List.nodup_nil
    · exact { hb with matchAttrs :=
        hb.matchAttrs.patSet r _ hop (Map.set_keysNodup _ _ _ (patGetD_of_all hb.matchAttrs.inner r [] List.nodup_nil)) }
  case allowStyles.onElements els =>
    refine foldl_inv _ (Policy.WFTables T) (fun b e hb => foldl_inv _ (Policy.WFTables T) (fun b prop hb => ?_) _ _ hb) _ _ hw
    refine { hb with elemStyles := fun kv hkv => ?_ }
    rcases Map.mem_set _ _ _ _ hkv with h1 | h1
    · rw [h1]
      apply append_listsNonempty
      cases hg : b.elsAndStyles.get? (toLowerName e) with
      | none => exact listsNonempty_nil
      | some sps => exact hb.elemStyles _ (Map.mem_of_get? _ _ _ hg)
    · exact hb.elemStyles kv h1
  case allowStyles.onElementsMatching r =>
    refine foldl_inv _ (Policy.WFTables T) (fun b prop hb => ?_) _ _ hw
    have hcur := patGetD_of_all hb.matchStyles.inner r [] ⟨List.nodup_nil, listsNonempty_nil⟩
    exact { hb with matchStyles :=
      hb.matchStyles.patSet r _ hop ⟨Map.set_keysNodup _ _ _ hcur.1, append_listsNonempty _ _ _ hcur.2⟩ }
  case allowStyles.globally =>
    refine foldl_inv _ (Policy.WFTables T) (fun b prop hb => ?_) _ _ hw
    exact { hb with globalStyles := append_listsNonempty _ _ _ hb.globalStyles }
  case allowURLSchemesMatching r =>
    exact { hw with schemes := List.forall_mem_append.mpr ⟨hw.schemes, List.forall_mem_singleton.mpr hop⟩ }
  all_goals exact wfTables_of_agree (applyOpInit_frame d p _) hw rfl rfl rfl rfl rfl rfl

theorem wf_applyOpInit (T : Nat → Bytes → Bool) (d : Bytes → Bytes → Bool) (p : Policy) (hw : p.WF T) (op : BuilderOp)
    (hop : op.patsOK T) : (applyOpInit d p op).WF T :=
  (wf_iff T _).mpr (wfTables_applyOpInit T d p ((wf_iff T p).mp hw) op hop)

/-- `init()` keeps a well-formed policy well formed: it empties the tables, and the one pattern set it leaves is
    unchanged -/
theorem wf_ensureInit (T : Nat → Bytes → Bool) (p : Policy) (hw : p.WF T) : p.ensureInit.WF T := by
  unfold Policy.ensureInit
  split
  · exact hw
  · exact ⟨List.nodup_nil, List.nodup_nil, fun _ h => (nomatch h), fun _ h => (nomatch h), fun _ h => (nomatch h),
      fun _ h => (nomatch h), hw.testB, fun _ h => (nomatch h), fun _ h => (nomatch h), fun _ h => (nomatch h),
      fun _ h => (nomatch h)⟩

theorem wf_applyOp (T : Nat → Bytes → Bool) (d : Bytes → Bytes → Bool) (p : Policy) (hw : p.WF T) (op : BuilderOp)
    (hop : op.patsOK T) : (applyOp d p op).WF T := by
  unfold applyOp
  refine wf_applyOpInit T d _ ?_ op hop
  split
  · exact wf_ensureInit T p hw
  · exact hw

/-- `WF` is an invariant of every history on any well-formed policy, the zero value `Policy{}` included -/
theorem wf_applyOps_any (T : Nat → Bytes → Bool) (d : Bytes → Bytes → Bool) (p : Policy)
    (hw : p.WF T) (ops : List BuilderOp) (hops : ∀ op ∈ ops, op.patsOK T) : (applyOps d p ops).WF T := by
  unfold applyOps
  induction ops generalizing p with
  | nil => exact hw
  | cons op rest ih =>
    exact ih _ (wf_applyOp T d p hw op (hops op List.mem_cons_self)) fun o ho => hops o (List.mem_cons_of_mem _ ho)

theorem wf_applyOps (T : Nat → Bytes → Bool) (d : Bytes → Bytes → Bool) (p : Policy) (hi : p.initialized = true)
    (hw : p.WF T) (ops : List BuilderOp) (hops : ∀ op ∈ ops, op.patsOK T) : (applyOps d p ops).WF T :=
  wf_applyOps_any T d p hw ops hops

theorem wf_new (T : Nat → Bytes → Bool) : ({ initialized := true } : Policy).WF T :=
  (wf_iff T _).mpr ⟨PatOK.nil T _, PatOK.nil T _, fun _ h => (nomatch h), fun _ h => (nomatch h), fun _ h => (nomatch h),
    listsNonempty_nil⟩

/-- what a policy without rules may differ in from the empty initialised policy: the two sets `NewPolicy()` fills
    with defaults (policy.go `addDefaultElementsWithoutAttrs`, `addDefaultSkipElementContent`) and the switches -/
def startParts : Fld → Bool
  | .setOfElementsAllowedWithoutAttrs | .setOfElementsToSkipContent | .switches => true
  | _ => false

/-- an initialised policy all of whose rule tables are empty: `{ initialized := true }`, and the model's
    `NewPolicy()` (`newPolicy`, Shipped.lean), which differs from it in the two default sets -/
abbrev Policy.NoRules (p : Policy) : Prop := AgreeOff startParts { initialized := true } p

theorem noRules_new : ({ initialized := true } : Policy).NoRules := .refl _ _

theorem noRules_newPolicy : newPolicy.NoRules :=
  ⟨rfl, fun _ => rfl, fun _ => rfl, fun _ => rfl, fun _ => rfl, fun _ => rfl, fun _ => rfl, fun _ => rfl, fun _ => rfl,
   fun h => (nomatch h), fun _ => rfl, fun h => (nomatch h), fun h => (nomatch h)⟩

namespace Policy.NoRules
variable {p : Policy} (h : p.NoRules)
include h

theorem wf (T : Nat → Bytes → Bool) : p.WF T :=
  (wf_iff T p).mpr (wfTables_of_agree h ((wf_iff T _).mp (wf_new T)) rfl rfl rfl rfl rfl rfl)

/-- no table holds anything yet, except that the set of elements allowed without attributes may (`NewPolicy()`
    fills it) -/
theorem not_holds : ∀ t : TableFact, (∀ el, t ≠ .bareOK el) → ¬ p.holds t
  | .elemRule .., _ => by rw [Policy.holds, Policy.elemRules, h.elsAndAttrs rfl]; exact List.not_mem_nil
  | .globalRule .., _ => by rw [Policy.holds, Policy.globalRules, h.globalAttrs rfl]; exact List.not_mem_nil
  | .elem _, _ => by rw [Policy.holds, Policy.hasElem, h.elsAndAttrs rfl]; exact Bool.false_ne_true
  | .elemStyle .., _ => by rw [Policy.holds, Policy.elemStyleRules, h.elsAndStyles rfl]; exact List.not_mem_nil
  | .globalStyle .., _ => by rw [Policy.holds, Policy.globalStyleRules, h.globalStyles rfl]; exact List.not_mem_nil
  | .matchRule .., _ => by rw [Policy.holds, Policy.matchRules, h.elsMatchingAndAttrs rfl]; exact List.not_mem_nil
  | .pattern _, _ => by rw [Policy.holds, Policy.hasPattern, h.elsMatchingAndAttrs rfl]; exact Bool.false_ne_true
  | .matchStyle .., _ => by rw [Policy.holds, Policy.matchStyleRules, h.elsMatchingAndStyles rfl]; exact List.not_mem_nil
  | .bareOK el, hb => absurd rfl (hb el)
  | .bareOKPattern _, _ => by
    rw [Policy.holds, Policy.bareOKPattern, h.setOfElementsMatchingAllowedWithoutAttrs rfl]; exact fun ⟨_, hq, _⟩ => nomatch hq
  | .schemePattern _, _ => by
    rw [Policy.holds, Policy.schemePattern, h.allowURLSchemeRegexps rfl]; exact fun ⟨_, hq, _⟩ => nomatch hq

/-- so a policy built from one without rules holds in its tables exactly what the calls contribute -/
theorem built (d : Bytes → Bytes → Bool) (ops : List BuilderOp) (t : TableFact) (ht : ∀ el, t ≠ .bareOK el) :
    (applyOps d p ops).holds t ↔ ∃ op ∈ ops, op.adds d t :=
  (tables_adds d t).of_empty h.initialized (h.not_holds t ht) ops

end Policy.NoRules

theorem wf_built (T : Nat → Bytes → Bool) (d : Bytes → Bytes → Bool) {p : Policy} (h : p.NoRules) (ops : List BuilderOp)
    (hops : ∀ op ∈ ops, op.patsOK T) : (applyOps d p ops).WF T :=
  wf_applyOps_any T d p (h.wf T) ops hops

end BM
