import BM.HardenGo
import BM.Proofs.AttrPass
import BM.Proofs.LoopState
/-
  Refinement: the link-hardening block as the Go code runs it (`Policy.hardenLinksGo`: two loops, the
  first with three flags and a temporary slice, the noopener loop with one flag) computes what
  `Policy.hardenLinks` states, for every policy, element and attribute list.
-/
namespace BM
open Html Props

theorem scan_fold (l : List Attr) (acc : Bool × Bool) :
    l.foldl hrefScanStep acc = (acc.1 || l.any (·.key == b!"href"), acc.2 || hasHostHref l) := by
  induction l generalizing acc with
  | nil => simp [hasHostHref]
  | cons a as ih =>
    rw [List.foldl_cons, ih]
    unfold hrefScanStep hasHostHref
    cases hk : a.key == b!"href"
    · simp only [Bool.false_eq_true, ↓reduceIte, List.any_cons, hk, Bool.false_or, List.filter_cons]
    · simp only [↓reduceIte, List.any_cons, hk, List.filter_cons]
      cases Url.parse a.val <;> simp [Bool.or_assoc]

/-- what the first loop appends to `tmpAttrs` for the attributes `l`, when `found` is the value of
    `targetBlankFound` it starts with -/
def loopOut (isA aNF aNR aTB : Bool) : Bool → List Attr → List Attr
  | _, [] => []
  | found, a :: as =>
    if isA && a.key == b!"target" then
      let found1 := found || asciiEqualFold a.val b!"_blank"
      if aTB && !found1 then ⟨a.key, b!"_blank"⟩ :: loopOut isA aNF aNR aTB true as
      else relFix aNF aNR a :: loopOut isA aNF aNR aTB found1 as
    else relFix aNF aNR a :: loopOut isA aNF aNR aTB found as

/-- `targetBlankFound` after the first loop over `l` -/
def foundAfter (isA aTB : Bool) (found : Bool) (l : List Attr) : Bool :=
  found || (isA && ((l.any fun a => a.key == b!"target" && asciiEqualFold a.val b!"_blank") ||
                    (aTB && l.any (·.key == b!"target"))))

theorem hlStep_spec (isA aNF aNR aTB : Bool) (s : HLState) (a : Attr) :
    let s' := hlStep isA aNF aNR aTB s a
    s'.tmpAttrs = s.tmpAttrs ++ loopOut isA aNF aNR aTB s.targetBlankFound [a] ∧
    s'.targetBlankFound = foundAfter isA aTB s.targetBlankFound [a] ∧
    s'.noFollowFound = (if a.key == b!"rel" && (aNF || aNR) then aNF else s.noFollowFound) ∧
    s'.noReferrerFound = (if a.key == b!"rel" && (aNF || aNR) then aNR else s.noReferrerFound) := by
  intro s'
  cases hkt : a.key == b!"target"
  · -- not a target attribute: the attribute, its rel value fixed, is appended; `targetBlankFound` stays
    have hlo : loopOut isA aNF aNR aTB s.targetBlankFound [a] = [relFix aNF aNR a] := by
      simp only [loopOut, hkt, Bool.and_false, Bool.false_eq_true, ↓reduceIte]
    have hfa : foundAfter isA aTB s.targetBlankFound [a] = s.targetBlankFound := by
      simp only [foundAfter, List.any_cons, List.any_nil, hkt, Bool.false_and, Bool.or_false, Bool.and_false]
    rw [hlo, hfa]
    cases hrel : a.key == b!"rel" && (aNF || aNR)
    · simp only [s', hlStep, hrel, relFix, hkt, Bool.and_false, Bool.false_eq_true, ↓reduceIte, Bool.not_false, and_self]
    · simp only [s', hlStep, hrel, relFix, addRelToken, hkt, Bool.and_false, Bool.false_eq_true, ↓reduceIte, Bool.not_true,
        and_self]
      exact ⟨rfl, trivial⟩
  · -- a target attribute is not a rel attribute; what happens to it depends on four Booleans:
    -- `isA`, whether its value is `_blank`, `aTB`, `targetBlankFound`
    have hrel : (a.key == b!"rel" && (aNF || aNR)) = false := by rw [beq_iff_eq.mp hkt]; rfl
    have hfix : relFix aNF aNR a = a := if_neg (by rw [hrel]; exact Bool.false_ne_true)
    obtain ⟨nff, nrf, tbf, tmp⟩ := s
    simp only [s', hlStep, hrel, hkt, loopOut, foundAfter, hfix, Bool.false_eq_true, ↓reduceIte, List.any_cons,
      List.any_nil, Bool.or_false, Bool.and_true, Bool.true_and]
    cases isA <;> cases asciiEqualFold a.val b!"_blank" <;> cases aTB <;> cases tbf <;> simp

/-- `foundAfter` over `a :: as` against `foundAfter` over `as` started from its value after `a`, as an identity of
    Booleans: `aTarget`, `aBlank` — `a` is a target attribute, its value is `_blank`; `blankRest`, `targetRest` — some
    attribute of `as` is a `_blank` target, a target -/
theorem foundAfter_bool : ∀ isA aTB found aTarget aBlank blankRest targetRest : Bool,
    (found || isA && (aTarget && aBlank || aTB && aTarget) || isA && (blankRest || aTB && targetRest)) =
      (found || isA && (aTarget && aBlank || blankRest || aTB && (aTarget || targetRest))) := by
  decide

theorem foundAfter_cons (isA aTB found : Bool) (a : Attr) (as : List Attr) :
    foundAfter isA aTB (foundAfter isA aTB found [a]) as = foundAfter isA aTB found (a :: as) := by
  simp only [foundAfter, List.any_cons, List.any_nil, Bool.or_false]
  exact foundAfter_bool ..

theorem loopOut_cons (isA aNF aNR aTB found : Bool) (a : Attr) (as : List Attr) :
    loopOut isA aNF aNR aTB found (a :: as) =
      loopOut isA aNF aNR aTB found [a] ++ loopOut isA aNF aNR aTB (foundAfter isA aTB found [a]) as := by
  simp only [loopOut, foundAfter, List.any_cons, List.any_nil, Bool.or_false]
  cases isA <;> cases aTB <;> cases found <;> cases a.key == b!"target" <;>
    cases asciiEqualFold a.val b!"_blank" <;> rfl

/-- `noFollowFound` / `noReferrerFound` over `a :: as`: when a link type is wanted (`want`) the flag is set to `x` at
    a rel attribute — at `a` (`aRel`) or at one of `as` (`restRel`) — and stays as it was set -/
theorem relFlag_cons {α} (want aRel restRel : Bool) (x y : α) :
    (if want && restRel then x else if aRel && want then x else y) = if want && (aRel || restRel) then x else y := by
  cases want <;> cases aRel <;> cases restRel <;> rfl

theorem hl_fold (isA aNF aNR aTB : Bool) (l : List Attr) (s : HLState) :
    let s' := l.foldl (hlStep isA aNF aNR aTB) s
    s'.tmpAttrs = s.tmpAttrs ++ loopOut isA aNF aNR aTB s.targetBlankFound l ∧
    s'.targetBlankFound = foundAfter isA aTB s.targetBlankFound l ∧
    s'.noFollowFound = (if (aNF || aNR) && l.any (·.key == b!"rel") then aNF else s.noFollowFound) ∧
    s'.noReferrerFound = (if (aNF || aNR) && l.any (·.key == b!"rel") then aNR else s.noReferrerFound) := by
  induction l generalizing s with
  | nil => simp [loopOut, foundAfter]
  | cons a as ih =>
    simp only [List.foldl_cons]
    obtain ⟨h1, h2, h3, h4⟩ := hlStep_spec isA aNF aNR aTB s a
    obtain ⟨i1, i2, i3, i4⟩ := ih (hlStep isA aNF aNR aTB s a)
    refine ⟨?_, ?_, ?_, ?_⟩
    · rw [i1, h1, h2, List.append_assoc, loopOut_cons _ _ _ _ _ a as]
    · rw [i2, h2, foundAfter_cons]
    · rw [i3, h3, List.any_cons]
      exact relFlag_cons ..
    · rw [i4, h4, List.any_cons]
      exact relFlag_cons ..

/-- once nothing can be rewritten any more (not an `a`, no AddTargetBlank…, or a `_blank` already seen) the
    loop only fixes the rel attributes -/
theorem loopOut_map (isA aNF aNR aTB found : Bool) (l : List Attr) (h : (isA && aTB && !found) = false) :
    loopOut isA aNF aNR aTB found l = l.map (relFix aNF aNR) := by
  induction l generalizing found with
  | nil => rfl
  | cons a as ih =>
    unfold loopOut
    split
    · rename_i hk
      rw [(Bool.and_eq_true_iff.mp hk).1, Bool.true_and] at h
      have hno : ∀ b, (aTB && !(found || b)) = false := fun b => by
        cases aTB <;> cases found <;> first | rfl | cases h
      simp only [hno, Bool.false_eq_true, ↓reduceIte, List.map_cons]
      rw [ih _ (by rw [(Bool.and_eq_true_iff.mp hk).1, Bool.true_and]; exact hno _)]
    · rw [List.map_cons, ih _ h]

theorem loopOut_eq (isA aNF aNR aTB : Bool) (l : List Attr) :
    loopOut isA aNF aNR aTB false l =
      (if isA && aTB then fixFirstTarget (l.map (relFix aNF aNR)) else l.map (relFix aNF aNR)) := by
  cases hc : isA && aTB
  · exact loopOut_map _ _ _ _ _ l (by rw [hc]; rfl)
  · rw [Bool.and_eq_true] at hc
    rw [hc.1, hc.2]
    show _ = fixFirstTarget (l.map (relFix aNF aNR))
    -- the first target attribute is set to `_blank` unless it is; from there on nothing changes
    induction l with
    | nil => rfl
    | cons a as ih =>
      simp only [loopOut, List.map_cons, fixFirstTarget, relFix_key, Bool.true_and, Bool.false_or]
      split
      · rename_i hk
        rw [relFix_other aNF aNR a (by rw [beq_iff_eq.mp hk]; decide)]
        cases asciiEqualFold a.val b!"_blank" <;>
          simp only [Bool.not_false, Bool.not_true, Bool.false_eq_true, ↓reduceIte, loopOut_map true _ _ true true as rfl]
      · rw [ih]

theorem noOpener_fold (l : List Attr) (s : Bool × List Attr) :
    l.foldl noOpenerStep s =
      (s.1 || l.any (·.key == b!"rel"),
       s.2 ++ l.map fun a => if a.key == b!"rel" then ⟨a.key, addRelToken true b!"noopener" a.val⟩ else a) := by
  induction l generalizing s with
  | nil => simp
  | cons a as ih =>
    simp only [List.foldl_cons]
    rw [ih]
    unfold noOpenerStep
    by_cases hk : (a.key == b!"rel") = true
    · simp only [hk, ↓reduceIte, List.any_cons, List.map_cons, addRelToken, Bool.true_and]
      cases hh : hasRelToken a.val b!"noopener"
      · simp only [Bool.false_eq_true, ↓reduceIte, Bool.true_or, Bool.not_false, List.append_assoc, List.singleton_append, Prod.mk.injEq]
        simp
      · simp
    · have hk' : (a.key == b!"rel") = false := by simpa using hk
      simp only [hk', Bool.false_eq_true, ↓reduceIte, List.any_cons, Bool.false_or, List.map_cons, List.append_assoc,
        List.singleton_append]

theorem addNoOpener_eq (l : List Attr) :
    (if (l.foldl noOpenerStep (false, [])).1 then (l.foldl noOpenerStep (false, [])).2
     else l ++ [⟨b!"rel", b!"noopener"⟩]) = addNoOpener l := by
  rw [noOpener_fold]
  rfl

theorem any_map_relFix (aNF aNR : Bool) (l : List Attr) (k : Bytes) :
    (l.map (relFix aNF aNR)).any (·.key == k) = l.any (·.key == k) :=
  any_key_map (relFix_key aNF aNR) l k

/-- the flags the Go loop keeps, against the conditions of `hardenCore` (two Boolean tautologies): a rel attribute
    is appended when a link type is wanted that no rel attribute got, i.e. when there was no rel attribute;
    the temporary slice is taken when a rel attribute was rewritten or a target `_blank` found -/
theorem flags_rel : ∀ nf nr hasRel : Bool,
    ((nf && !(if (nf || nr) && hasRel then nf else false)) || (nr && !(if (nf || nr) && hasRel then nr else false))) =
      ((nf || nr) && !hasRel) := by
  decide

theorem flags_tmp : ∀ nf nr hasRel tbF : Bool,
    ((if (nf || nr) && hasRel then nf else false) || (if (nf || nr) && hasRel then nr else false) || tbF) =
      ((nf || nr) && hasRel || tbF) := by
  decide

/-- what `hardenLinksGo` does after its first loop, from the state `s` that loop leaves: it takes the temporary
    slice if a flag is set, appends a rel attribute for the link types no rel attribute got, appends
    `target="_blank"` on an `a` that had none, and runs the noopener loop if a `_blank` target is there -/
def goTail (isA aNF aNR aTB : Bool) (s : HLState) (clean : List Attr) : List Attr :=
  let cleanAttrs := if s.noFollowFound || s.noReferrerFound || s.targetBlankFound then s.tmpAttrs else clean
  let cleanAttrs :=
    if (aNF && !s.noFollowFound) || (aNR && !s.noReferrerFound) then cleanAttrs ++ [⟨b!"rel", newRelValue aNF aNR⟩]
    else cleanAttrs
  let r : List Attr × Bool :=
    if isA && aTB && !s.targetBlankFound then (cleanAttrs ++ [⟨b!"target", b!"_blank"⟩], true)
    else (cleanAttrs, s.targetBlankFound)
  if r.2 then
    (let n := r.1.foldl noOpenerStep (false, [])
     if n.1 then n.2 else r.1 ++ [⟨b!"rel", b!"noopener"⟩])
  else r.1

/-- the Go tail against the last three stages of `hardenCore`, on variables: `T` is what the first loop collected
    (equal to the attribute list when no flag is set), `hasRel` whether it saw a rel attribute, `tbF` its
    `targetBlankFound` -/
theorem goTail_eq (isA aNF aNR aTB hasRel tbF : Bool) (T clean : List Attr)
    (hT : ((aNF || aNR) && hasRel || tbF) = false → T = clean) :
    goTail isA aNF aNR aTB
      ⟨if (aNF || aNR) && hasRel then aNF else false, if (aNF || aNR) && hasRel then aNR else false, tbF, T⟩ clean =
    (let out := if (aNF || aNR) && !hasRel then T ++ [⟨b!"rel", newRelValue aNF aNR⟩] else T
     let out := if isA && aTB && !tbF then out ++ [⟨b!"target", b!"_blank"⟩] else out
     if tbF || (isA && aTB) then addNoOpener out else out) := by
  have hT' : (if ((aNF || aNR) && hasRel || tbF) = true then T else clean) = T := by
    split
    · rfl
    · rename_i h
      exact (hT (Bool.eq_false_iff.mpr h)).symm
  simp only [goTail, flags_rel, flags_tmp, hT']
  generalize (if ((aNF || aNR) && !hasRel) = true then T ++ [(⟨b!"rel", _⟩ : Attr)] else T) = X
  generalize (isA && aTB) = g
  cases g <;> cases tbF <;>
    simp only [Bool.true_and, Bool.false_and, Bool.not_true, Bool.not_false, Bool.or_true, Bool.or_false,
      Bool.false_eq_true, ↓reduceIte, addNoOpener_eq]

theorem hardenLinksGo_eq (p : Policy) (el : Bytes) (clean : List Attr) :
    p.hardenLinksGo el clean = p.hardenLinks el clean := by
  rw [hardenLinks_core]
  unfold Policy.hardenLinksGo
  simp only [scan_fold, Bool.false_or]
  rw [isEmpty_filter]
  cases hh : clean.any (·.key == b!"href") with
  | false => rfl
  | true =>
    simp only [Bool.not_true, Bool.false_eq_true, ↓reduceIte]
    generalize hasHostHref clean = ext
    generalize (p.requireNoFollow || ext && p.requireNoFollowFullyQualifiedLinks) = aNF
    generalize (p.requireNoReferrer || ext && p.requireNoReferrerFullyQualifiedLinks) = aNR
    generalize (ext && p.addTargetBlankToFullyQualifiedLinks) = aTB
    generalize (el == b!"a") = isA
    obtain ⟨f1, f2, f3, f4⟩ := hl_fold isA aNF aNR aTB clean {}
    rw [List.nil_append, loopOut_eq] at f1
    replace f2 := f2.trans (Bool.false_or _)
    generalize clean.foldl (hlStep isA aNF aNR aTB) {} = S at f1 f2 f3 f4 ⊢
    obtain ⟨nff, nrf, tbf, tmp⟩ := S
    dsimp only at f1 f2 f3 f4 ⊢
    subst f1 f2 f3 f4
    refine goTail_eq isA aNF aNR aTB _ _
      (if isA && aTB then fixFirstTarget (clean.map (relFix aNF aNR)) else clean.map (relFix aNF aNR)) clean ?_
    -- when no flag is set the temporary slice is the attribute list itself
    intro h
    rw [Bool.or_eq_false_iff, Bool.and_eq_false_iff] at h
    rw [map_relFix_id aNF aNR clean h.1]
    split
    · rename_i hc
      rw [Bool.and_eq_true] at hc
      refine fixFirstTarget_id clean ?_
      have h2 := h.2
      simp only [hc.1, hc.2, Bool.true_and, Bool.or_eq_false_iff] at h2
      exact h2.2
    · rfl

end BM
