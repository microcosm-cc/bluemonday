import BM.Proofs.RtTag
import BM.Proofs.Next
/-
  Well-formedness of what the tokenizer produces: tag names start with a lower-case letter and
  contain no whitespace, `/`, `>` or upper-case letter; attribute keys are non-empty, lower
  case, and contain nothing that ends a key; end tags carry no attributes.  These are exactly
  the hypotheses (`NameOK'`, `AttrOK`) of the render/tokenize round trip.
-/
namespace BM.Html

/-- well-formed token, as far as the round trip needs it -/
def TokWF (t : Token) : Prop :=
  match t.tt with
  | .start => NameOK' t.data ∧ ∀ a ∈ t.attrs, AttrOK a
  | .selfClosing => NameOK' t.data ∧ ∀ a ∈ t.attrs, AttrOK a
  | .end_ => NameOK' t.data ∧ t.attrs = []
  | _ => True

theorem lowerByte_class (c : UInt8) :
    (isAlpha c = true → isLowerA (lowerByte c) = true) ∧
    (isWs c = false → c ≠ 47 → c ≠ 62 → nameByte (lowerByte c) = true) ∧
    (keyStop c = false → keyByte (lowerByte c) = true) := by
  cases hu : isUpper c
  · rw [(lowerByte_spec c).1 hu]
    exact ⟨fun h => by simpa [isAlpha, hu] using h, fun h1 h2 h3 => by simp [nameByte, h1, h2, h3, hu],
      fun h => by simp [keyByte, h, hu]⟩
  · have hl := (lowerByte_spec c).2.1 hu
    exact ⟨fun _ => hl, fun _ _ _ => (lowerA_bytes hl).1, fun _ => (lowerA_bytes hl).2⟩

theorem readMarkupDeclaration_tt (s : Bytes) :
    (readMarkupDeclaration s).1 = .comment ∨ (readMarkupDeclaration s).1 = .doctype := by
  unfold readMarkupDeclaration
  repeat' split
  all_goals simp

theorem readTagNameAux_bytes : ∀ (s n r : Bytes), readTagNameAux s = some (n, r) →
    ∀ x ∈ n, isWs x = false ∧ x ≠ 47 ∧ x ≠ 62
  | [], _, _, h => nomatch h
  | c :: cs, n, r, h => by
    rw [readTagNameAux] at h
    split at h
    · cases h; nofun
    · rename_i hws
      split at h
      · cases h; nofun
      · rename_i hsep
        obtain ⟨⟨n', r'⟩, hr, heq⟩ := Option.map_eq_some_iff.mp h
        cases heq
        intro x hx
        rcases List.mem_cons.mp hx with rfl | hx
        · simp only [Bool.or_eq_true, beq_iff_eq, not_or] at hsep
          exact ⟨by simpa using hws, hsep.1, hsep.2⟩
        · exact readTagNameAux_bytes cs n' _ hr x hx

theorem readTagName_nameOK (c : UInt8) (r n rest : Bytes) (hc : isAlpha c = true)
    (h : readTagName (c :: r) = some (n, rest)) : NameOK' (lowerAscii n) := by
  obtain ⟨⟨n', r'⟩, hr, heq⟩ := Option.map_eq_some_iff.mp (show (readTagNameAux r).map _ = _ from h)
  cases heq
  refine ⟨lowerByte c, lowerAscii n', rfl, (lowerByte_class c).1 hc, fun x hx => ?_⟩
  obtain ⟨y, hy, rfl⟩ := List.mem_map.mp hx
  obtain ⟨h1, h2, h3⟩ := readTagNameAux_bytes r n' _ hr y hy
  exact (lowerByte_class y).2.1 h1 h2 h3

theorem keyBody_bytes : ∀ (s k r : Bytes), keyBody s = some (k, r) → ∀ x ∈ k, keyStop x = false
  | [], _, _, h => nomatch h
  | c :: cs, k, r, h => by
    rw [keyBody] at h
    split at h
    · cases h; nofun
    · rename_i hstop
      obtain ⟨⟨k', r'⟩, hr, heq⟩ := Option.map_eq_some_iff.mp h
      cases heq
      intro x hx
      rcases List.mem_cons.mp hx with rfl | hx
      · simpa using hstop
      · exact keyBody_bytes cs k' _ hr x hx

theorem keyByte_lowerAscii {k : Bytes} (hk : ∀ x ∈ k, keyStop x = false) :
    ∀ x ∈ lowerAscii k, keyByte x = true := by
  intro x hx
  obtain ⟨y, hy, rfl⟩ := List.mem_map.mp hx
  exact (lowerByte_class y).2.2 (hk y hy)

theorem readKey_attrOK (s k r : Bytes) (v : Bytes) (h : readKey s = some (k, r)) (hne : k.isEmpty = false) :
    AttrOK ⟨lowerAscii k, v⟩ := by
  unfold readKey at h
  split at h
  · cases h
  · rename_i c cs
    split at h
    · -- an `=` at index 0 belongs to the key
      rename_i h61
      obtain ⟨⟨k', r'⟩, hr, heq⟩ := Option.map_eq_some_iff.mp h
      cases heq
      rw [beq_iff_eq.mp h61]
      exact ⟨61, lowerAscii k', rfl, rfl, keyByte_lowerAscii (keyBody_bytes cs k' _ hr)⟩
    · cases k with
      | nil => cases hne
      | cons d ds =>
        have hk := keyByte_lowerAscii (keyBody_bytes (c :: cs) (d :: ds) r h)
        exact ⟨lowerByte d, lowerAscii ds, rfl, by rw [hk _ (List.mem_cons_self ..)]; exact Bool.or_true _,
          fun x hx => hk x (List.mem_cons_of_mem _ hx)⟩

theorem readAttrs_keys : ∀ (fuel : Nat) (s : Bytes) (acc as : List Attr) (rest : Bytes),
    readAttrs fuel s acc = some (as, rest) →
    (∀ a ∈ acc, AttrOK ⟨lowerAscii a.key, a.val⟩) → ∀ a ∈ as, AttrOK ⟨lowerAscii a.key, a.val⟩
  | 0, _, _, _, _, h, _ => nomatch h
  | _ + 1, [], _, _, _, h, _ => nomatch h
  | fuel + 1, c :: cs, acc, as, rest, h, hacc => by
    unfold readAttrs at h
    split at h
    · cases h
      exact fun a ha => hacc a (List.mem_reverse.mp ha)
    · split at h
      · cases h
      · rename_i k r1 hk
        split at h
        · cases h
        · rename_i v r2 hv
          simp only at h
          cases hs : skipWs r2 with
          | nil => simp [hs] at h
          | cons d ds =>
            simp only [hs] at h
            refine readAttrs_keys fuel _ _ as rest h fun a ha => ?_
            split at ha
            · exact hacc a ha
            · rename_i hke
              rcases List.mem_cons.mp ha with rfl | ha
              · exact readKey_attrOK _ k r1 v hk (by simpa using hke)
              · exact hacc a ha

theorem readTag_wf (c : UInt8) (r n : Bytes) (as : List Attr) (rest : Bytes) (hc : isAlpha c = true)
    (h : readTag (c :: r) = some (n, as, rest)) :
    NameOK' (lowerAscii n) ∧ ∀ a ∈ decodeAttrs as, AttrOK a := by
  unfold readTag at h
  split at h
  · cases h
  · rename_i name r1 hn
    split at h
    · cases h
    · obtain ⟨⟨as', rest'⟩, hr, heq⟩ := Option.map_eq_some_iff.mp h
      cases heq
      refine ⟨readTagName_nameOK c r _ r1 hc hn, fun a ha => ?_⟩
      obtain ⟨b, hb, rfl⟩ := List.mem_map.mp ha
      exact readAttrs_keys _ _ [] _ _ hr nofun b hb

/-- a token equal to a well-formed one, read off an equation between results of `next` -/
theorem tokWF_of_eq {t t' : Token} {x y : Bytes × Bytes} (h : some (t', x) = some (t, y)) (w : TokWF t') : TokWF t :=
  (Prod.mk.inj (Option.some.inj h)).1 ▸ w

theorem tokWF_decl (r d : Bytes) : TokWF ⟨(readMarkupDeclaration r).1, d, []⟩ := by
  unfold TokWF
  rcases readMarkupDeclaration_tt r with h | h <;> simp only [h]

theorem markupStep_wf {rawTag s : Bytes} {c : UInt8} {r : Bytes} {t : Token} {rt rest : Bytes}
    (h : markupStep rawTag s c r = some (t, rt, rest)) : TokWF t := by
  unfold markupStep at h
  split at h
  · rename_i hc
    unfold openStep at h
    split at h
    · cases h
    · rename_i hr
      have := readTag_wf _ _ _ _ _ hc hr
      exact tokWF_of_eq h (by split <;> exact this)
  · split at h
    · unfold closeStep at h
      split at h
      · exact tokWF_of_eq h trivial
      · split at h
        · exact tokWF_of_eq h trivial
        · split at h
          · rename_i hd
            split at h
            · cases h
            · rename_i hr
              exact tokWF_of_eq h ⟨(readTag_wf _ _ _ _ _ hd hr).1, rfl⟩
          · exact tokWF_of_eq h trivial
    · split at h
      · exact tokWF_of_eq h (tokWF_decl _ _)
      · exact tokWF_of_eq h trivial

theorem next_wf (rawTag s : Bytes) (t : Token) (rt rest : Bytes)
    (h : next rawTag s = some (t, rt, rest)) : TokWF t := by
  rw [next_eq] at h
  split at h
  · cases h
  · split at h
    · -- a raw text
      rename_i heq
      cases h
      unfold rawStep at heq
      simp only at heq
      split at heq
      · cases heq
      · split at heq
        · cases heq
        · exact tokWF_of_eq (Prod.mk.inj heq).1 trivial
    · unfold dataStep at h
      simp only at h
      split at h
      · exact tokWF_of_eq h trivial
      · split at h
        · exact markupStep_wf h
        · cases h

theorem tokenizeAux_wf (fuel : Nat) (rawTag s : Bytes) : ∀ t ∈ tokenizeAux fuel rawTag s, TokWF t :=
  tokenizeAux_forall next_wf fuel rawTag s

theorem tokenize_wf (s : Bytes) : ∀ t ∈ tokenize s, TokWF t := tokenizeAux_wf _ _ _

end BM.Html
