import BM.Props.C03
import BM.Proofs.Switches
import BM.Proofs.Tables
import BM.Proofs.WFBuild
/-
  C03 for whole policies, by induction over builder histories.  `C03_browser` speaks of the policy's scheme
  table; here the table is traced back to the calls that filled it: for a policy built from `NewPolicy()` by
  any history of builder calls, a URL value that survives has, for a browser, a scheme that some
  `AllowURLSchemes` / `AllowURLSchemeWithCustomPolicy` call of the history names (in some letter case) or
  that a registered scheme pattern matches — or it is relative and relative URLs are allowed.  So a scheme
  no call ever named (javascript, vbscript, data, …) reaches no output, whatever else the history did.
  Then the src rewriter: a src returned under a rewriter is its result on a URL the check accepted
  (`C03_sanitizeAttrs_rewriter`).
-/
namespace BM.Props
open BM BM.Html

/-- the call registers scheme `s` (lower case), plainly or with a custom check -/
def namesScheme (s : Bytes) : BuilderOp → Prop
  | .allowURLSchemes names => s ∈ names.map toLowerName
  | .allowURLSchemeWithCustomPolicy scheme _ => toLowerName scheme = s
  | _ => False

/-- the call registers a scheme pattern that matches `s` -/
def patternsScheme (s : Bytes) : BuilderOp → Prop
  | .allowURLSchemesMatching r => r.test s = true
  | _ => False

theorem setsScheme_isSome (s : Bytes) (op : BuilderOp) (st : Option (List UrlPolicy)) :
    (op.setsScheme s st).isSome = true ↔ st.isSome = true ∨ namesScheme s op := by
  cases op
  case allowURLSchemes names =>
    simp only [BuilderOp.setsScheme, namesScheme, ← List.contains_iff_mem]
    split
    · rename_i hc; simp only [Option.isSome_some, hc, or_true]
    · rename_i hc; simp only [hc, Bool.false_eq_true, or_false]
  case allowURLSchemeWithCustomPolicy scheme f =>
    simp only [BuilderOp.setsScheme, namesScheme]
    split
    · rename_i hc; simp only [Option.isSome_some, hc, or_true]
    · rename_i hc; simp only [hc, or_false]
  -- no other call touches the registration
  all_goals exact (or_iff_left id).symm

def newSchemePatterns : BuilderOp → List Pat
  | .allowURLSchemesMatching r => [r]
  | _ => []

theorem schemeRegexps_applyOpInit (d : Bytes → Bytes → Bool) (p : Policy) (op : BuilderOp) :
    (applyOpInit d p op).allowURLSchemeRegexps = p.allowURLSchemeRegexps ++ newSchemePatterns op := by
  cases op
  case' allowAttrs names re ae scope => cases scope
  case' allowStyles names m scope => cases scope
  case allowURLSchemesMatching r => rfl
  all_goals exact ((applyOpInit_frame d p _).allowURLSchemeRegexps rfl).trans (List.append_nil _).symm

/-- a registered scheme pattern was registered by a call of the history (`AllowURLSchemesMatching` appends
    the very pattern it is given) -/
theorem schemeRegexps_applyOps (d : Bytes → Bytes → Bool) (p : Policy) (hi : p.initialized = true)
    (ops : List BuilderOp) (q : Pat) (hq : q ∈ (applyOps d p ops).allowURLSchemeRegexps) :
    q ∈ p.allowURLSchemeRegexps ∨ ∃ op ∈ ops, q ∈ newSchemePatterns op :=
  have h : Adds d (fun p => q ∈ p.allowURLSchemeRegexps) (fun op => q ∈ newSchemePatterns op) :=
    fun p op => by simp only [schemeRegexps_applyOpInit, List.mem_append]
  (h.history p hi ops).mp hq

/-- **C03 traced back to the builder history, from any initialised start**: a URL value that `validURL` lets through
    has, for a browser, a non-empty scheme that the start policy or some call of the history registered by name (in
    some letter case), or that a scheme pattern of the start or of some call matches; or it is a non-empty relative
    reference and relative URLs are allowed -/
theorem C03_applyOps (d : Bytes → Bytes → Bool) {p0 : Policy} (hi : p0.initialized = true) (ops : List BuilderOp)
    (hreq : (applyOps d p0 ops).requireParseableURLs = true) (raw v : Bytes)
    (h : (applyOps d p0 ops).validURL raw = some v) :
    (∃ s, Spec.classifyUrl v = .scheme s ∧ s ≠ [] ∧
      (((p0.allowURLSchemes.get? s).isSome = true ∨ ∃ op ∈ ops, namesScheme s op) ∨
       ((∃ q ∈ p0.allowURLSchemeRegexps, q.test s = true) ∨ ∃ op ∈ ops, patternsScheme s op))) ∨
    (Spec.classifyUrl v = .relative ∧ (applyOps d p0 ops).allowRelativeURLs = true ∧ v ≠ []) := by
  rcases C03_browser _ hreq raw v h with ⟨s, hc, hne, hs⟩ | hrel
  · left
    refine ⟨s, hc, hne, ?_⟩
    rcases hs with ⟨checks, hget⟩ | hre
    · left
      rw [scheme_applyOps d _ hi ops s] at hget
      exact (foldl_iff (fun st op => op.setsScheme s st) (·.isSome = true) (namesScheme s)
        (fun st op => setsScheme_isSome s op st) ops _).mp (by rw [hget]; rfl)
    · right
      obtain ⟨q, hq, ht⟩ := List.any_eq_true.mp hre
      rcases schemeRegexps_applyOps d _ hi ops q hq with hq0 | ⟨op, hop, hin⟩
      · exact .inl ⟨q, hq0, ht⟩
      · refine .inr ⟨op, hop, ?_⟩
        cases op with
        | allowURLSchemesMatching r =>
          simp only [newSchemePatterns, List.mem_singleton] at hin
          subst hin; exact ht
        | _ => simp [newSchemePatterns] at hin
  · exact .inr hrel

/-- **C03 for every policy built from one without rules** (`NewPolicy()` with its default sets included): only
    the calls of the history can have registered the scheme.  A scheme that no call named and no registered pattern
    matches never comes out. -/
theorem C03_built_from (d : Bytes → Bytes → Bool) {p0 : Policy} (h0 : p0.NoRules) (ops : List BuilderOp)
    (hreq : (applyOps d p0 ops).requireParseableURLs = true) (raw v : Bytes)
    (h : (applyOps d p0 ops).validURL raw = some v) :
    (∃ s, Spec.classifyUrl v = .scheme s ∧ s ≠ [] ∧
      ((∃ op ∈ ops, namesScheme s op) ∨ (∃ op ∈ ops, patternsScheme s op))) ∨
    (Spec.classifyUrl v = .relative ∧ (applyOps d p0 ops).allowRelativeURLs = true ∧ v ≠ []) :=
  (C03_applyOps d h0.initialized ops hreq raw v h).imp_left fun ⟨s, hc, hne, hs⟩ => ⟨s, hc, hne,
    hs.imp (·.resolve_left (by rw [h0.allowURLSchemes rfl]; exact Bool.false_ne_true))
      (·.resolve_left (by rw [h0.allowURLSchemeRegexps rfl]; exact fun ⟨_, hq, _⟩ => nomatch hq))⟩

/-- **C03 traced back to the builder history**, from the empty initialised policy -/
theorem C03_built_policy (d : Bytes → Bytes → Bool) (ops : List BuilderOp)
    (hreq : (applyOps d { initialized := true } ops).requireParseableURLs = true) (raw v : Bytes)
    (h : (applyOps d { initialized := true } ops).validURL raw = some v) :
    (∃ s, Spec.classifyUrl v = .scheme s ∧ s ≠ [] ∧
      ((∃ op ∈ ops, namesScheme s op) ∨ (∃ op ∈ ops, patternsScheme s op))) ∨
    (Spec.classifyUrl v = .relative ∧ (applyOps d { initialized := true } ops).allowRelativeURLs = true ∧ v ≠ []) :=
  C03_built_from d noRules_new ops hreq raw v h

/-- a scheme that no call of the history names and no registered pattern matches never comes out -/
theorem C03_built_no_scheme (s : Bytes) (d : Bytes → Bytes → Bool) {p0 : Policy} (h0 : p0.NoRules) (ops : List BuilderOp)
    (hreq : (applyOps d p0 ops).requireParseableURLs = true)
    (hn : ∀ op ∈ ops, ¬ namesScheme s op) (hp : ∀ op ∈ ops, ¬ patternsScheme s op)
    (raw v : Bytes) (h : (applyOps d p0 ops).validURL raw = some v) : Spec.classifyUrl v ≠ .scheme s := by
  intro hc
  rcases C03_built_from d h0 ops hreq raw v h with ⟨s', hs, _, hby⟩ | ⟨hr, _, _⟩
  · rw [hc] at hs
    injection hs with hs
    subst hs
    rcases hby with ⟨op, hop, hno⟩ | ⟨op, hop, hpo⟩
    · exact hn op hop hno
    · exact hp op hop hpo
  · rw [hc] at hr; cases hr

/-- in particular: when no call of the history names `javascript` and none registers a scheme pattern, no
    surviving URL value is a `javascript:` URL for a browser — however the input spelled, padded or encoded it -/
theorem C03_built_no_javascript (d : Bytes → Bytes → Bool) (ops : List BuilderOp)
    (hreq : (applyOps d { initialized := true } ops).requireParseableURLs = true)
    (hn : ∀ op ∈ ops, ¬ namesScheme b!"javascript" op) (hp : ∀ op ∈ ops, newSchemePatterns op = [])
    (raw v : Bytes) (h : (applyOps d { initialized := true } ops).validURL raw = some v) :
    Spec.classifyUrl v ≠ .scheme b!"javascript" :=
  C03_built_no_scheme _ d noRules_new ops hreq hn (fun op hop hps => by
    have := hp op hop
    cases op <;> simp [patternsScheme, newSchemePatterns] at hps this) raw v h

/-- the premises are met by an ordinary history: `AllowURLSchemes("HTTP", "mailto")`, `AllowAttrs("href").OnElements("a")` -/
example :
    let ops := [BuilderOp.allowURLSchemes [b!"HTTP", b!"mailto"],
                BuilderOp.allowAttrs [b!"href"] none false (.onElements [b!"a"])]
    (applyOps (fun _ _ => false) { initialized := true } ops).requireParseableURLs = true ∧
    (∀ op ∈ ops, ¬ namesScheme b!"javascript" op) ∧ (∀ op ∈ ops, newSchemePatterns op = []) := by
  refine ⟨by decide, ?_, ?_⟩
  · intro op hop
    simp only [List.mem_cons, List.not_mem_nil, or_false] at hop
    rcases hop with rfl | rfl
    · show ¬ (b!"javascript" ∈ [b!"HTTP", b!"mailto"].map toLowerName)
      decide
    · exact id
  · intro op hop
    simp only [List.mem_cons, List.not_mem_nil, or_false] at hop
    rcases hop with rfl | rfl <;> rfl

/-- what C03 says of a src attribute when a rewriter `f` is installed: at a checked src position its value is
    the printed form of `f` applied to the URL the check accepted, for one of the src values the tag had -/
def SrcRewritten (p : Policy) (f : UrlRewriter) (el : Bytes) (attrs : List Attr) (b : Attr) : Prop :=
  b.key = b!"src" → Spec.isUrlPosition el b!"src" = true →
    ∃ a ∈ attrs, a.key = b!"src" ∧ ∃ u parsed, p.validURL a.val = some u ∧ Url.parse u = some parsed ∧
      b.val = Url.print (f parsed)

theorem srcRewritten_passInv (p : Policy) (f : UrlRewriter) (el : Bytes) (attrs : List Attr) :
    PassInv (SrcRewritten p f el attrs) :=
  .of_added fun x hx hk => by
    rcases hx with h | h | h | h <;> rw [h] at hk <;> exact absurd hk (by decide)

/-- **C03, the rewriter clause, for the whole of `sanitizeAttrs`**: with URL checking on and a src rewriter
    installed, every src returned at one of the nine src positions is the rewriter's result — printed — on the
    URL the check accepted and net/url parsed again, for a src value of the input tag; a src whose URL is refused,
    or does not parse again, is dropped -/
theorem C03_sanitizeAttrs_rewriter (p : Policy) (hreq : p.requireParseableURLs = true) (f : UrlRewriter)
    (hf : p.srcRewriter = some f) (el : Bytes) (attrs : List Attr) (aps : AttrRules) (out : List Attr)
    (h : p.sanitizeAttrs el attrs aps = some out) : ∀ b ∈ out, SrcRewritten p f el attrs b := by
  refine sanitizeAttrs_after_urlPass (srcRewritten_passInv p f el attrs) p el attrs aps out h ?_
  intro mid hmid
  constructor
  · intro hnot b _ _ hpos
    exfalso
    exact hnot ⟨(urlPosition_cases el b!"src" hpos).1, hreq⟩
  · intro _ _ m2 hm2 b hb hkb hpos
    obtain ⟨a, ha, hab⟩ := mapMOpt_mem _ mid m2 hm2 b hb
    have hk := (urlPassAttr_some hab).1
    -- `a` survived the first pass: it is an attribute of the tag with the same key (and, not being a style
    -- attribute, the same value)
    have hka : a.key = b!"src" := by rw [← hk]; exact hkb
    obtain ⟨a0, ha0, hfa⟩ : ∃ a0 ∈ attrs, p.filterAttr el aps (p.hasStylePolicies el) a0 = some a := by
      rw [hmid] at ha
      obtain ⟨a0, h0, h1⟩ := List.mem_filterMap.mp ha
      exact ⟨a0, h0, h1⟩
    have ha0eq : a0 = a := by
      rcases filterAttr_some hfa with ⟨_, rfl⟩ | ⟨_, ⟨hs, _, rfl⟩ | ⟨_, rfl, _⟩⟩
      · rfl
      · rw [Bool.and_eq_true, beq_iff_eq] at hs
        exact absurd (hs.1.symm.trans hka) (by decide)
      · rfl
    subst ha0eq
    obtain ⟨_, hc⟩ := urlPosition_cases el b!"src" hpos
    rcases hc with ⟨hkey, _⟩ | ⟨hkey, _⟩ | ⟨_, hel, hnh, hnc⟩
    · exact absurd hkey (by decide)
    · exact absurd hkey (by decide)
    · unfold Policy.urlPassAttr at hab
      simp only [hnh, hnc, hel, hka, beq_self_eq_true, Bool.false_eq_true, ↓reduceIte, hf] at hab
      split at hab
      · simp at hab
      · rename_i u hu
        split at hab
        · simp at hab
        · rename_i parsed hparsed
          simp only [Option.some.injEq] at hab
          subst hab
          exact ⟨a0, ha0, hka, u, parsed, hu, hparsed, rfl⟩

/-- (per-input form)  **the rewriter clause at byte level**: on every tag re-read from the returned bytes, a src
    at a checked position is the rewriter's result for a src value of an input tag of that name -/
theorem C03_bytes_rewriter_on (p : Policy) (hreq : p.ensureInit.requireParseableURLs = true) (f : UrlRewriter)
    (hf : p.ensureInit.srcRewriter = some f) (input : Bytes) (hp : PlainOn p.ensureInit (tokenize input)) :
    ∀ k ∈ tokenize (p.sanitizeCore input), (k.tt = .start ∨ k.tt = .selfClosing) → ∀ b ∈ k.attrs,
      ∃ t ∈ tokenize input, t.data = k.data ∧ SrcRewritten p.ensureInit f k.data t.attrs b := by
  intro k hk htt b hb
  have hne : k.attrs ≠ [] := List.ne_nil_of_mem hb
  obtain ⟨t, ht, aps, hd, _, hs⟩ := reread_open_tagOn p input hp k hk htt hne
  exact ⟨t, ht, hd, C03_sanitizeAttrs_rewriter p.ensureInit hreq f hf k.data t.attrs aps k.attrs hs b hb⟩

end BM.Props
