import BM.Props.C07
import BM.Props.C20
import BM.Spec.More
import BM.Proofs.Utf8Decode
import BM.Proofs.Congr
import BM.Proofs.UrlRelative
/-
  C07, from the specification's side.  `Spec.conformingDoc` is the decidable description of "a
  well-formed document that uses only elements, attributes and values the policy allows" that the
  oracle evaluates on every case.  Here it is tied to the theorem: for a policy whose attribute
  handling is filtering (`AttrSimple`) or filtering plus the URL check (`UrlFilter`) and a document
  whose tags name elements the policy allows *by name*, a canonical document that is conforming in
  the specification's sense is returned byte for byte.  (Element patterns, link options, styles and
  forced attributes: `C07_bytes` on `Conform`, and the oracle.)
-/
namespace BM.Props
open BM BM.Html BM.Spec

/-- a data attribute of the documented shape is one for `isDataAttribute`, when its name holds no line feed
    (`^data-.+`: the regexp's `.` does not match one; a name out of the tokenizer holds no white space) -/
theorem isDataAttribute_of_wellFormed (k : Bytes) (hk : ∀ x ∈ k, x ≠ 10) (h : wellFormedDataAttr k = true) :
    isDataAttribute k = true := by
  unfold wellFormedDataAttr at h
  unfold isDataAttribute
  cases hs : stripPrefix? b!"data-" k with
  | none => rw [hs] at h; cases h
  | some rest =>
    rw [hs] at h
    simp only [Bool.and_eq_true, Bool.not_eq_true', List.all_eq_true] at h
    obtain ⟨⟨hne, hxml⟩, hall⟩ := h
    have hk' : k = b!"data-" ++ rest := stripPrefix?_eq _ _ _ hs
    have hrest10 : ∀ x ∈ rest, x ≠ 10 := fun x hx => hk x (by rw [hk']; exact List.mem_append_right _ hx)
    have hne' : rest.isEmpty = false := by simpa using hne
    have hhead : (rest.head? == some 10) = false := by
      cases rest with
      | nil => simp at hne'
      | cons c cs =>
        have := hrest10 c (by simp)
        simp [this]
    simp only [hne', hhead, Bool.or_self, Bool.false_eq_true, ↓reduceIte]
    have hnoxml : ∀ c cs, stripPrefix? b!"xml" rest = some (c :: cs) → False := by
      intro c cs hsx
      have hr : rest = b!"xml" ++ c :: cs := stripPrefix?_eq _ _ _ hsx
      have hp : hasPrefix b!"xml" rest = true := by unfold hasPrefix; rw [hsx]; rfl
      have hl : rest.length > 3 := by rw [hr]; simp
      simp only [hp, Bool.true_and, decide_eq_false_iff_not, Nat.not_lt] at hxml
      omega
    have hany : (rest.any fun c => isUpper c || c == 59) = false := by
      rw [List.any_eq_false]
      intro c hc
      have := hall c hc
      simp only [bne_iff_ne, ne_eq] at this
      simp [this.1, this.2]
    split
    · rename_i c cs hsx
      exact (hnoxml c cs hsx).elim
    · simp [hany]

theorem ruleAccepts_eq (apl : List AttrPolicy) (v : Bytes) : ruleAccepts apl v = attrPoliciesAccept apl v := by
  unfold ruleAccepts attrPoliciesAccept
  induction apl with
  | nil => rfl
  | cons ap rest ih =>
    simp only [List.any_cons, ih]
    cases ap <;> rfl

/-- an attribute the specification accepts (`Spec.acceptsAttr`) is kept by the sanitiser's first pass, on an
    element allowed by name -/
theorem filterAttr_of_accepts (p : Policy) (el : Bytes) (aps : AttrRules) (a : Attr)
    (hel : p.elsAndAttrs.get? el = some aps) (hk : ∀ x ∈ a.key, x ≠ 10)
    (h : acceptsAttr p el a = true) : (p.filterAttr el aps false a).isSome = true := by
  have e : p.filterAttr el aps false a =
      if p.allowDataAttributes && isDataAttribute a.key then some a
      else if a.key == b!"style" && false then
        (let v := p.sanitizeStyles a.val el; if v.isEmpty then none else some ⟨a.key, v⟩)
      else if acceptBy aps a.key a.val then some a
      else if acceptBy p.globalAttrs a.key a.val then some a else none := rfl
  rw [e]
  unfold acceptsAttr at h
  simp only [Bool.or_eq_true, Bool.and_eq_true] at h
  rcases h with ⟨hd, hwf⟩ | hr
  · simp [hd, isDataAttribute_of_wellFormed a.key hk hwf]
  · by_cases hdata : (p.allowDataAttributes && isDataAttribute a.key) = true
    · simp [hdata]
    · simp only [hdata, Bool.false_eq_true, ↓reduceIte, Bool.and_false]
      unfold rulesFor at hr
      rw [hel] at hr
      simp only at hr
      rw [ruleAccepts_eq, accept_append, Bool.or_eq_true] at hr
      -- a table whose rules for the key accept the value
      have acc : ∀ m : AttrRules, attrPoliciesAccept ((m.get? a.key).getD []) a.val = true →
          acceptBy m a.key a.val = true := by
        intro m hr
        unfold acceptBy
        cases hg : m.get? a.key with
        | none => rw [hg] at hr; cases hr
        | some apl => rw [hg] at hr; exact hr
      rcases hr with hr | hr
      · simp [acc aps hr]
      · simp only [acc p.globalAttrs hr, ↓reduceIte]
        split <;> rfl

theorem attrOK_key_no_nl (a : Attr) (h : AttrOK a) : ∀ x ∈ a.key, x ≠ 10 :=
  fun x hx h10 => absurd (attrOK_bytes h x hx).2.1 (by rw [h10]; decide)

theorem not_scriptOrStyle_of_not_raw {n : Bytes} (hnr : isRawTagName n = false) : isScriptOrStyle n = false := by
  unfold isRawTagName at hnr
  unfold isScriptOrStyle
  simp only [Bool.or_eq_false_iff] at hnr ⊢
  exact ⟨hnr.1.1.1.1.2, hnr.1.1.1.2⟩

/-- what the specification's conforming start tag gives, for an element allowed by name, before the attribute pass
    is looked at: the rules, the shape `C07_bytes` asks for, every attribute accepted by the first pass, and the
    normal form of the URL values -/
theorem spec_start_parts (p : Policy) (t : Token) (htt : t.tt = .start) (hwf : TokWF t)
    (hex : p.elsAndAttrs.contains t.data = true) (h : conformingTag p t = true) :
    ∃ aps, p.attrRulesFor t.data = some aps ∧ SegOK t ∧ isScriptOrStyle t.data = false ∧
      (t.attrs ≠ [] ∨ p.allowNoAttrs t.data = true) ∧
      t.attrs.filter (fun a => (p.filterAttr t.data aps false a).isSome) = t.attrs ∧
      ∀ a ∈ t.attrs, p.requireParseableURLs = true → isUrlPosition t.data a.key = true →
        a.val ≠ [] ∧ urlOk p a.val = true ∧ (Url.parse a.val).map Url.print = some a.val ∧
          Css.trimSpace a.val = a.val := by
  unfold conformingTag at h
  simp only [Bool.and_eq_true, Bool.not_eq_true', Bool.or_eq_true, List.all_eq_true] at h
  obtain ⟨⟨⟨_, hnr⟩, hbare⟩, hall⟩ := h
  obtain ⟨hname, hattrs⟩ := tokWF_of_open hwf (.inl htt)
  obtain ⟨aps, hget⟩ : ∃ aps, p.elsAndAttrs.get? t.data = some aps := by
    unfold Map.contains at hex
    cases hg : p.elsAndAttrs.get? t.data with
    | none => rw [hg] at hex; cases hex
    | some aps => exact ⟨aps, rfl⟩
  refine ⟨aps, by unfold Policy.attrRulesFor; rw [hget], (segOK_open_iff (.inl htt)).mpr ⟨hname, hnr, hattrs⟩,
    not_scriptOrStyle_of_not_raw hnr, ?_, ?_, ?_⟩
  · rcases hbare with hb | hb
    · left; intro hn; rw [hn] at hb; cases hb
    · right; exact hb
  · exact List.filter_eq_self.mpr fun a ha =>
      filterAttr_of_accepts p t.data aps a hget (attrOK_key_no_nl a (hattrs a ha)) (hall a ha).1.2
  · intro a ha hreq hpos
    have hacc := (hall a ha).2
    simp only [hreq, hpos, Bool.and_self, Bool.true_eq_false, false_or, beq_iff_eq] at hacc
    refine ⟨fun hn => ?_, hacc.1.1.2, hacc.1.2, hacc.2⟩
    have := hacc.1.1.1
    rw [hn] at this
    cases this

/-- **the specification's conforming start tag is the theorem's**, for an element allowed by name under a
    policy whose attribute handling is pure filtering -/
theorem conform_of_spec_start (p : Policy) (hs : AttrSimple p) (t : Token) (htt : t.tt = .start) (hwf : TokWF t)
    (hex : p.elsAndAttrs.contains t.data = true) (h : conformingTag p t = true) : Conform p t := by
  obtain ⟨aps, haps, hseg, hss, hbare, hfil, _⟩ := spec_start_parts p t htt hwf hex h
  exact conform_open (.inl htt) hseg hss haps (by rw [cleanAttrs_eq, simple_sanitizeAttrs p hs, hfil]) hbare

theorem conform_of_spec_end (p : Policy) (t : Token) (htt : t.tt = .end_) (hwf : TokWF t)
    (hex : p.elsAndAttrs.contains t.data = true) (hnr : isRawTagName t.data = false) : Conform p t := by
  refine ⟨segOK_of_end htt hwf, ?_⟩
  rw [htt]
  exact ⟨not_scriptOrStyle_of_not_raw hnr, .inl hex⟩

/-- every tag of the document names an element the policy allows by name -/
def explicitDoc (p : Policy) (ts : List Token) : Bool :=
  ts.all fun t => !isTag t || p.elsAndAttrs.contains t.data

/-- what `C07_spec_conforming` and `C07_spec_conforming_urls` share: only for start tags does `Conform` depend on
    the attribute pass -/
theorem spec_conforming_core (p : Policy) (inp : Bytes)
    (hcan : canonicalDoc inp = true) (hconf : conformingDoc p.ensureInit (tokenize inp) = true)
    (hexp : explicitDoc p.ensureInit (tokenize inp) = true)
    (hstart : ∀ t ∈ tokenize inp, t.tt = .start → TokWF t → p.ensureInit.elsAndAttrs.contains t.data = true →
      conformingTag p.ensureInit t = true → Conform p.ensureInit t) :
    p.sanitizeCore inp = inp := by
  have hren : renderAll (tokenize inp) = inp := by
    rw [← flatten_map_render, ← List.flatMap_def]
    exact beq_iff_eq.mp hcan
  have hc : ∀ t ∈ tokenize inp, Conform p.ensureInit t := by
    intro t ht
    unfold conformingDoc at hconf
    simp only [Bool.and_eq_true, List.all_eq_true] at hconf
    have hct := hconf.2 t ht
    have hwf := tokenize_wf inp t ht
    have hex : isTag t = true → p.ensureInit.elsAndAttrs.contains t.data = true := by
      intro hit
      have := List.all_eq_true.mp hexp t ht
      simpa [hit] using this
    cases htt : t.tt with
    | text => exact ⟨segOK_of_text htt, by rw [htt]; trivial⟩
    | start =>
      rw [htt] at hct
      exact hstart t ht htt hwf (hex (by unfold isTag; rw [htt]; rfl)) hct
    | end_ =>
      rw [htt] at hct
      simp only [Bool.and_eq_true, Bool.not_eq_true'] at hct
      exact conform_of_spec_end p.ensureInit t htt hwf (hex (by unfold isTag; rw [htt]; rfl)) hct.2
    | selfClosing => rw [htt] at hct; cases hct
    | comment => rw [htt] at hct; cases hct
    | doctype => rw [htt] at hct; cases hct
  have := C07_bytes p (tokenize inp) hc
  rwa [hren] at this

/-- **C07 from the specification's side**: under a policy whose attribute handling is pure filtering, a
    document in canonical serialisation that the *specification* calls conforming (`Spec.conformingDoc`,
    the predicate the oracle evaluates) and whose tags name elements allowed by name is returned byte for
    byte -/
theorem C07_spec_conforming (p : Policy) (hs : AttrSimple p.ensureInit) (inp : Bytes)
    (hcan : canonicalDoc inp = true) (hconf : conformingDoc p.ensureInit (tokenize inp) = true)
    (hexp : explicitDoc p.ensureInit (tokenize inp) = true) :
    p.sanitizeCore inp = inp :=
  spec_conforming_core p inp hcan hconf hexp fun t _ htt hwf hex hct =>
    conform_of_spec_start p.ensureInit hs t htt hwf hex hct

/-- non-vacuity: a policy, a canonical conforming document with attributes, texts and nesting -/
example :
    let p : Policy := { initialized := true, elsAndAttrs := [(b!"b", []), (b!"a", [(b!"title", [none])])],
                        globalAttrs := [(b!"id", [none])], setOfElementsAllowedWithoutAttrs := [b!"b"] }
    canonicalDoc b!"<a title=\"x\" id=\"1\">1 &lt; 2 <b>t</b></a>" = true ∧
    conformingDoc p (tokenize b!"<a title=\"x\" id=\"1\">1 &lt; 2 <b>t</b></a>") = true ∧
    explicitDoc p (tokenize b!"<a title=\"x\" id=\"1\">1 &lt; 2 <b>t</b></a>") = true := by decide +kernel

/-- attribute handling that is filtering plus the URL pass: no link options, styles, forced attributes,
    rewriter (`AttrSimple` without `noUrl`, with `noRewriter`) -/
structure UrlFilter (p : Policy) : Prop where
  noFollow : p.requireNoFollow = false
  noFollowFQ : p.requireNoFollowFullyQualifiedLinks = false
  noReferrer : p.requireNoReferrer = false
  noReferrerFQ : p.requireNoReferrerFullyQualifiedLinks = false
  noBlank : p.addTargetBlankToFullyQualifiedLinks = false
  noStyle : ∀ el, p.hasStylePolicies el = false
  noCross : p.requireCrossOriginAnonymous = false
  noSandbox : p.requireSandboxOnIFrame = none
  noRewriter : p.srcRewriter = none

/-- **a URL in the specification's normal form is a fixed point of `validURL`**: accepted by `Spec.urlOk`,
    printed as it is parsed, nothing for `TrimSpace` to remove, no white space or control character -/
theorem validURL_of_spec (p : Policy) (v : Bytes) (hreq : p.requireParseableURLs = true) (hne : v ≠ [])
    (hok : urlOk p v = true) (hpp : (Url.parse v).map Url.print = some v) (htrim : Css.trimSpace v = v)
    (hws : hasWsOrCtl v = false) : p.validURL v = some v := by
  obtain ⟨u, hu, hpr⟩ : ∃ u, Url.parse v = some u ∧ Url.print u = v := by
    cases hp : Url.parse v with
    | none => rw [hp] at hpp; cases hpp
    | some u => rw [hp] at hpp; simp only [Option.map_some, Option.some.injEq] at hpp; exact ⟨u, rfl, hpp⟩
  have hno : ∀ c : UInt8, c ≤ 32 → v.contains c = false := by
    intro c hc
    unfold hasWsOrCtl at hws
    rw [List.any_eq_false] at hws
    cases hcv : v.contains c with
    | false => rfl
    | true =>
      have hmem := List.contains_iff_mem.mp hcv
      have := hws c hmem
      simp only [Bool.or_eq_true, decide_eq_true_eq, not_or] at this
      exact absurd hc this.1
  have hclass := Url.printed_class v u hu
  rw [hpr] at hclass
  unfold Policy.validURL
  simp only [hreq, ↓reduceIte, htrim, hno 32 (by decide), hno 9 (by decide), hno 10 (by decide), Bool.or_self,
    Bool.false_eq_true, hu]
  unfold urlOk at hok
  rw [hclass] at hok
  by_cases hsch : u.scheme = []
  · simp only [hsch, ↓reduceIte, Bool.and_eq_true] at hok
    have hne' : v.isEmpty = false := by
      cases v with
      | nil => exact absurd rfl hne
      | cons _ _ => rfl
    simp only [hsch, List.isEmpty_nil, Bool.not_true, Bool.false_eq_true, ↓reduceIte, hok.1, hpr, hne', Bool.not_false,
      Bool.and_self]
  · have hsne : u.scheme.isEmpty = false := by
      cases hs : u.scheme with
      | nil => exact absurd hs hsch
      | cons _ _ => rfl
    simp only [hsch, ↓reduceIte, Bool.and_eq_true] at hok
    simp only [hsne, Bool.not_false, ↓reduceIte]
    obtain ⟨hok1, _⟩ := hok
    cases hg : p.allowURLSchemes.get? u.scheme with
    | none =>
      rw [hg] at hok1
      simp only at hok1 ⊢
      simp only [hok1, ↓reduceIte, hpr]
    | some checks =>
      rw [hg] at hok1
      simp only [hu, Bool.or_eq_true] at hok1 ⊢
      by_cases hce : checks.isEmpty = true
      · simp only [hce, ↓reduceIte, hpr]
      · simp only [hce, Bool.false_eq_true, ↓reduceIte]
        rcases hok1 with h | h
        · exact absurd h hce
        · simp only [h, ↓reduceIte, hpr]

/-- the URL values of the document hold no white space or control character (a `data:` URL may, and is
    then rewritten by the sanitiser: not covered here) -/
def urlsPlain (ts : List Token) : Bool :=
  ts.all fun t => t.attrs.all fun a => !isUrlPosition t.data a.key || !hasWsOrCtl a.val

theorem conform_of_spec_start_url (p : Policy) (hs : UrlFilter p) (t : Token) (htt : t.tt = .start) (hwf : TokWF t)
    (hex : p.elsAndAttrs.contains t.data = true) (h : conformingTag p t = true)
    (hplain : (t.attrs.all fun a => !isUrlPosition t.data a.key || !hasWsOrCtl a.val) = true) : Conform p t := by
  obtain ⟨aps, haps, hseg, hss, hbare, hfil, hurl⟩ := spec_start_parts p t htt hwf hex h
  refine conform_open (.inl htt) hseg hss haps ?_ hbare
  rw [cleanAttrs_eq]
  refine sanitizeAttrs_fixed_of p t.data (hs.noStyle _) hs.noCross hs.noSandbox t.attrs aps ?_ ?_
  · -- the URL pass leaves every attribute alone: a value in the specification's normal form is a fixed point
    rw [hfil]
    refine fun hreq a ha => urlPass_fixed p hs.noRewriter t.data a fun hkey => ?_
    have hpos := (urlKeyFor_iff _ _).mp hkey
    obtain ⟨hne, hok, hpp, htrim⟩ := hurl a ha hreq hpos
    have hpl := List.all_eq_true.mp hplain a ha
    simp only [hpos, Bool.not_true, Bool.false_or, Bool.not_eq_true'] at hpl
    exact validURL_of_spec p a.val hreq hne hok hpp htrim hpl
  · rw [hfil, hardenStage_off p (anyLinkOption_off hs.noFollow hs.noFollowFQ hs.noReferrer hs.noReferrerFQ hs.noBlank)]

/-- **C07 from the specification's side, URL checking included**: under a policy whose attribute handling is
    filtering plus the URL pass, a canonical document that `Spec.conformingDoc` calls conforming, whose tags
    name elements allowed by name and whose URL values hold no white space or control character, is returned
    byte for byte — in particular `Spec.urlOk` together with "printed as parsed" and "nothing to trim" is a
    sufficient description of the URL values `validURL` leaves alone -/
theorem C07_spec_conforming_urls (p : Policy) (hs : UrlFilter p.ensureInit) (inp : Bytes)
    (hcan : canonicalDoc inp = true) (hconf : conformingDoc p.ensureInit (tokenize inp) = true)
    (hexp : explicitDoc p.ensureInit (tokenize inp) = true) (hplain : urlsPlain (tokenize inp) = true) :
    p.sanitizeCore inp = inp :=
  spec_conforming_core p inp hcan hconf hexp fun t ht htt hwf hex hct =>
    conform_of_spec_start_url p.ensureInit hs t htt hwf hex hct (List.all_eq_true.mp hplain t ht)

/-- non-vacuity: a link with a checked URL, a relative image source -/
example :
    let p : Policy := { initialized := true, requireParseableURLs := true, allowRelativeURLs := true,
                        allowURLSchemes := [(b!"https", [])],
                        elsAndAttrs := [(b!"a", [(b!"href", [none])]), (b!"img", [(b!"src", [none])])] }
    let d := b!"<a href=\"https://a.b/c?d=e#f\">t<img src=\"/x.png\"></a>"
    canonicalDoc d = true ∧ conformingDoc p (tokenize d) = true ∧ explicitDoc p (tokenize d) = true ∧
      urlsPlain (tokenize d) = true := by decide +kernel

end BM.Props
