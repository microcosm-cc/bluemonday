import BM.Props.C01
import BM.Proofs.ViewTables
import BM.Proofs.WFBuild
import BM.Proofs.Tables
/-
  C01 for whole policies, by induction over builder histories: an element a policy built from `NewPolicy()` allows
  — hence, by `C01_events` / `C01_bytesC_on`, every element whose tag reaches the output — was named by a call of the
  history (`AllowElements`, `AllowAttrs(…).OnElements`, `AllowNoAttrs().OnElements`, in any letter case) or is
  matched by an element pattern a call of the history registered.
-/
namespace BM.Props
open BM BM.Html BM.Spec

/-- a call of the history names element `n`, or registers an element pattern that matches it -/
def ElementByCall (T : Nat → Bytes → Bool) (ops : List BuilderOp) (n : Bytes) : Prop :=
  (∃ op ∈ ops, op.addsElem n) ∨ (∃ op ∈ ops, ∃ r : Pat, op.addsPattern r ∧ T r.id n = true)

/-- from any initialised well-formed start: an element allowed after the calls was allowed before, or a call named
    it, or it is matched by a pattern a call registered -/
theorem allowsElement_applyOps (T : Nat → Bytes → Bool) (d : Bytes → Bytes → Bool) {p0 : Policy}
    (hi : p0.initialized = true) (hw0 : p0.WF T)
    (ops : List BuilderOp) (hpat : ∀ op ∈ ops, op.patsOK T) (n : Bytes)
    (h : allowsElement (applyOps d p0 ops) n = true) : allowsElement p0 n = true ∨ ElementByCall T ops n := by
  have hw := wf_applyOps_any T d p0 hw0 ops hpat
  unfold allowsElement at h
  rcases Bool.or_eq_true_iff.mp h with h | h
  · rcases (tables_applyOps d p0 hi ops (.elem n)).mp h with h0 | hc
    · exact .inl (by unfold allowsElement; exact Bool.or_eq_true_iff.mpr (.inl h0))
    · exact .inr (.inl hc)
  · obtain ⟨e, he, ht⟩ := List.any_eq_true.mp h
    have hhas : (applyOps d p0 ops).hasPattern e.1 := by
      unfold Policy.hasPattern; rw [patGet?_of_mem _ hw.idsA e he]; rfl
    rcases (tables_applyOps d p0 hi ops (.pattern e.1)).mp hhas with h0 | ⟨op, hop, ha⟩
    · left
      unfold Policy.holds Policy.hasPattern at h0
      obtain ⟨v, hv⟩ := Option.isSome_iff_exists.mp h0
      obtain ⟨e0, he0, hid, _⟩ := mem_of_patGet? _ _ _ hv
      unfold allowsElement
      refine Bool.or_eq_true_iff.mpr (.inr (List.any_eq_true.mpr ⟨e0, he0, ?_⟩))
      show e0.1.test n = true
      rw [hw0.testA e0 he0, hid, ← hw.testA e he]; exact ht
    · exact .inr (.inr ⟨op, hop, e.1, ha, by rw [← hw.testA e he]; exact ht⟩)

/-- … from a start without rules: a call named it, or it is matched by a pattern a call registered -/
theorem allowsElement_built_from (T : Nat → Bytes → Bool) (d : Bytes → Bytes → Bool) {p0 : Policy} (h0 : p0.NoRules)
    (ops : List BuilderOp) (hpat : ∀ op ∈ ops, op.patsOK T) (n : Bytes)
    (h : allowsElement (applyOps d p0 ops) n = true) : ElementByCall T ops n :=
  (allowsElement_applyOps T d h0.initialized (h0.wf T) ops hpat n h).resolve_left (by
    unfold allowsElement
    rw [h0.elsAndAttrs rfl, h0.elsMatchingAndAttrs rfl]; exact Bool.false_ne_true)

/-- … from the empty initialised policy -/
theorem allowsElement_built (T : Nat → Bytes → Bool) (d : Bytes → Bytes → Bool) (ops : List BuilderOp)
    (hpat : ∀ op ∈ ops, op.patsOK T) (n : Bytes)
    (h : allowsElement (applyOps d { initialized := true } ops) n = true) : ElementByCall T ops n :=
  allowsElement_built_from T d noRules_new ops hpat n h

/-- **C01 traced back to the builder history** (byte level, per input), for every policy built from one without
    rules — `NewPolicy()` with its default sets included: every tag re-read from the returned bytes names an
    element some call of the history named or matched by a pattern -/
theorem C01_built_from (T : Nat → Bytes → Bool) (d : Bytes → Bytes → Bool) {p0 : Policy} (h0 : p0.NoRules)
    (ops : List BuilderOp) (hpat : ∀ op ∈ ops, op.patsOK T) (input : Bytes)
    (hp : PlainOn (applyOps d p0 ops).ensureInit (tokenize input)) :
    ∀ k ∈ tokenize ((applyOps d p0 ops).sanitizeCore input), isTag k = true → ElementByCall T ops k.data := by
  intro k hk htag
  rcases C01_bytesC_on _ input hp k hk with h | ⟨_, hall⟩ | ⟨hc, _⟩
  · unfold isTag at htag; rw [h] at htag; exact absurd htag (by decide)
  · rw [ensureInit_of_init _ (applyOps_initialized d _ h0.initialized ops)] at hall
    exact allowsElement_built_from T d h0 ops hpat k.data hall
  · unfold isTag at htag; rw [hc] at htag; exact absurd htag (by decide)

/-- **C01 traced back to the builder history**, from the empty initialised policy -/
theorem C01_built_policy (T : Nat → Bytes → Bool) (d : Bytes → Bytes → Bool) (ops : List BuilderOp)
    (hpat : ∀ op ∈ ops, op.patsOK T) (input : Bytes)
    (hp : PlainOn (applyOps d { initialized := true } ops).ensureInit (tokenize input)) :
    ∀ k ∈ tokenize ((applyOps d { initialized := true } ops).sanitizeCore input),
      isTag k = true → ElementByCall T ops k.data :=
  C01_built_from T d noRules_new ops hpat input hp

end BM.Props
