import BM.Sanitize
import BM.Props.Pins
/-
  C10: inline style is filtered declaration by declaration.  Proved for every policy,
  element and style value: the new value of the style attribute is the `"; "`-join, in
  order, of `property ": " value` for exactly those parsed declarations whose lower-cased,
  prefix-stripped property has a rule (for the element, else through patterns; or global)
  one of whose matchers accepts the lower-cased, escape-decoded value; it is empty (and the
  attribute is then removed) when the declarations do not parse or none is accepted; a
  declaration whose value holds an escape that cannot be decoded is never kept; and a rule
  with no matcher at all accepts nothing (the builder gives a style call without matcher the
  property's default handler, which for an unknown property rejects everything: C18).
-/
namespace BM.Props
open BM BM.Html

/-- **C10**: `sanitizeStyles` keeps, in order, exactly the accepted declarations of a cleanly
    parsed style, and nothing when the style does not parse -/
theorem C10_sanitizeStyles (p : Policy) (val el : Bytes) :
    p.sanitizeStyles val el =
      match Css.parseDeclarations (styleSource val) with
      | none => []
      | some decs =>
        joinBytes b!"; " ((decs.filter (p.declAccepted (p.styleRulesFor el))).map
          fun d => d.property ++ b!": " ++ d.value) := by
  -- the definition, written out; the two `match`es are different auxiliary functions, equal on constructors
  unfold Policy.sanitizeStyles
  cases Css.parseDeclarations (styleSource val) <;> rfl

/-- order is preserved and nothing is invented: the kept declarations are a sub-list of the
    parsed ones -/
theorem kept_sublist (p : Policy) (el : Bytes) (decs : List Css.Decl) :
    List.Sublist (decs.filter (p.declAccepted (p.styleRulesFor el))) decs := List.filter_sublist

/-- a kept declaration's property is allowlisted (for the element or globally) and one of the
    registered matchers accepts the lower-cased, decoded value -/
theorem kept_is_allowlisted (p : Policy) (sps : StyleRules) (dec : Css.Decl) (h : p.declAccepted sps dec = true) :
    ∃ v, removeUnicode (toLowerGo dec.value) = some v ∧
      ((∃ spl, sps.get? (trimPrefixes (toLowerGo dec.property) vendorPrefixes) = some spl ∧
          stylePoliciesAccept spl v = true) ∨
       (∃ spl, p.globalStyles.get? (trimPrefixes (toLowerGo dec.property) vendorPrefixes) = some spl ∧
          stylePoliciesAccept spl v = true)) := by
  unfold Policy.declAccepted at h
  cases hru : removeUnicode (toLowerGo dec.value) with
  | none => simp [hru] at h
  | some v =>
    refine ⟨v, rfl, ?_⟩
    simp only [hru, Bool.or_eq_true] at h
    rcases h with h | h
    · left
      cases hg : sps.get? (trimPrefixes (toLowerGo dec.property) vendorPrefixes) with
      | none => simp [hg] at h
      | some spl => exact ⟨spl, rfl, by simpa [hg] using h⟩
    · right
      cases hg : p.globalStyles.get? (trimPrefixes (toLowerGo dec.property) vendorPrefixes) with
      | none => simp [hg] at h
      | some spl => exact ⟨spl, rfl, by simpa [hg] using h⟩

/-- a matcher-less rule is never accepted (handler nil, no enum, no regexp) -/
theorem no_matcher_rejects (v : Bytes) : stylePoliciesAccept [{}] v = false := by
  simp [stylePoliciesAccept]

theorem empty_style_removed (p : Policy) (el : Bytes) (aps : AttrRules) (a : Attr)
    (hk : a.key = b!"style") (hs : p.hasStylePolicies el = true)
    (hd : (p.allowDataAttributes && isDataAttribute a.key) = false)
    (he : p.sanitizeStyles a.val el = []) : p.filterAttr el aps true a = none := by
  have _ := hs
  unfold Policy.filterAttr
  simp only [hd, Bool.false_eq_true, ↓reduceIte]
  simp only [hk, beq_self_eq_true, Bool.and_self, ↓reduceIte]
  simp [he]

theorem undecodable_rejected (p : Policy) (sps : StyleRules) (dec : Css.Decl)
    (h : removeUnicode (toLowerGo dec.value) = none) : p.declAccepted sps dec = false := by
  simp [Policy.declAccepted, h]

example :
    let p : Policy := { initialized := true, globalStyles := [(b!"color", [{ enum := [b!"red"] }])] }
    p.sanitizeStyles b!"COLOR: \\72 ed; width: 1px; -webkit-color: RED ;color: blue; color: \\110000" b!"b" =
      b!"COLOR: \\72 ed; -webkit-color: RED" := by decide +kernel

end BM.Props
