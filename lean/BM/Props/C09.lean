import BM.Proofs.Prov
import BM.Proofs.Nesting
import BM.Props.C14
/-
  C09: well-nested input yields well-nested output.  Event level, every policy: an element dropped for lack of
  attributes and its own end tag cancel (the start tag pushes its name, the end tag that finds it on top of the stack
  pops it; each writes at most a space); void elements never push and never start skipping; a kept element nested in
  a dropped element of the same name leaves a marker that makes its own end tag pass (and only pops the marker), so
  the dropped element's end tag is still matched afterwards.  Whole documents: `C09_events` (every policy without
  AllowUnsafe: the written tokens are well nested whenever the input's tokens are — by the simulation `nest_run` of
  `Proofs/Nesting.lean`, which shows that the five state variables of the loop are a function of the open elements
  of the input) and `C09_bytesC_on` with its corollaries (what a tokenizer reads from the returned bytes is well
  nested).
-/
namespace BM.Props
open BM BM.Html BM.Spec

/-- start tag of an element dropped for lack of attributes: pushed, at most a space written -/
theorem dropped_start (p : Policy) (st : LoopState) (t : Token) (aps : AttrRules)
    (htt : t.tt = .start) (hss : isScriptOrStyle t.data = false) (hv : isVoidElement t.data = false)
    (haps : p.attrRulesFor t.data = some aps) (hclean : p.cleanAttrs t aps = some [])
    (hbare : p.allowNoAttrs t.data = false) :
    p.step st t = some ({ st with mostRecentlyStartedToken := t.data, skipClosingTag := true,
                                  closingTagToSkipStack := t.data :: st.closingTagToSkipStack }, p.space) := by
  simp [Policy.step, htt, Policy.stepStart, hss, haps, hclean, hbare, pushDropped, hv]

/-- its end tag: popped, at most a space written, the flag cleared when the stack empties -/
theorem dropped_end (p : Policy) (st : LoopState) (t : Token) (rest : List Bytes)
    (htt : t.tt = .end_) (hss : isScriptOrStyle t.data = false)
    (hflag : st.skipClosingTag = true) (hstack : st.closingTagToSkipStack = t.data :: rest) :
    ∃ st', p.step st t = some (st', p.space) ∧ st'.closingTagToSkipStack = rest ∧
      st'.skipClosingTag = !rest.isEmpty ∧ st'.skipElementContent = st.skipElementContent := by
  have h1 : (clearRecent st t.data).skipClosingTag = true ∧
      (clearRecent st t.data).closingTagToSkipStack = t.data :: rest ∧
      (clearRecent st t.data).skipElementContent = st.skipElementContent := by
    unfold clearRecent; split <;> simp [hflag, hstack]
  refine ⟨popDropped (clearRecent st t.data), ?_, ?_, ?_, ?_⟩
  · rw [step_of_end htt, stepEnd_dropped rfl (by unfold hiddenEl; rw [hss]; rfl) h1.1 h1.2.1]
  · simp [popDropped, h1.2.1]
  · simp [popDropped, h1.2.1, h1.1]; cases rest <;> simp
  · simp [popDropped, h1.2.2]

theorem void_dropped_no_push (st : LoopState) (el : Bytes) (hv : isVoidElement el = true) :
    pushDropped st el = st := by simp [pushDropped, hv]

theorem void_no_skip (p : Policy) (st : LoopState) (el : Bytes) (hv : isVoidElement el = true) :
    p.enterSkip st el = st := by simp [Policy.enterSkip, hv]

/-- the marker of a kept same-name element is popped by that element's end tag, which is then
    handled like any other end tag (so it is written when the element is allowed) -/
theorem marker_popped (st : LoopState) (el : Bytes) (rest : List Bytes)
    (hflag : st.skipClosingTag = true) (hstack : st.closingTagToSkipStack = (47 :: el) :: rest) :
    (popMarker st el).closingTagToSkipStack = rest ∧ (popMarker st el).skipClosingTag = true := by
  simp [popMarker, hflag, hstack]

/-- **C09 (event level, every policy without AllowUnsafe, every input)**: if the input's
    non-void elements are properly opened and closed, the loop does not panic and what it
    writes is the serialisation of a token list with the same property — whatever is dropped,
    skipped, kept, nested in same-named dropped elements, or void. -/
theorem C09_events (p : Policy) (hu : p.ensureInit.allowUnsafe = false) (input : Bytes)
    (hwn : wellNested (tokenize input) = true) :
    ∃ ws toks, p.ensureInit.run {} (tokenize input) = (ws, false) ∧
      RunWrites p.ensureInit (tokenize input) ws toks ∧ wellNested toks = true :=
  nest_run p.ensureInit hu (tokenize input) [] {} (abs_init _) (tokenizeAux_nameOK _ _ _) hwn

theorem prov_segOK {p : Policy} (hp : Plain p) {t k : Token} (hwf : TokWF t) (h : Prov p t k) : SegOK k :=
  (prov_segOKOn (hp.noRaw t.data) hwf h).resolve_right (prov_ne_comment hp.noComments h)

theorem wn_coalesce : ∀ (ts : List Token) (d : Bytes) (S : List Bytes),
    wellNestedAux S (coalesce d ts) = wellNestedAux S ts
  | [], d, S => by
    simp only [coalesce, flushText]
    split <;> simp [wellNestedAux]
  | t :: ts, d, S => by
    simp only [coalesce]
    split
    · rename_i h
      have ht : t.tt = .text := by simpa [tt_beq] using h
      rw [wn_coalesce ts]
      simp [wellNestedAux, ht]
    · have hflush : ∀ rest, wellNestedAux S (flushText d ++ rest) = wellNestedAux S rest := by
        intro rest
        unfold flushText; split <;> simp [wellNestedAux]
      rw [hflush]
      simp only [wellNestedAux]
      cases htt : t.tt <;> simp only [wn_coalesce ts]

theorem wn_map_reread : ∀ (ts : List Token) (S : List Bytes), wellNestedAux S (ts.map reread) = wellNestedAux S ts
  | [], S => rfl
  | t :: ts, S => by
    by_cases hc : t.tt = .comment
    · have h2 : (reread t).tt = .comment := by rw [reread_tt]; exact hc
      simp only [List.map_cons, wellNestedAux, hc, h2]
      exact wn_map_reread ts S
    · simp only [List.map_cons, reread_of_ne t hc, wellNestedAux]
      cases t.tt <;> simp only [wn_map_reread ts]

/-- (per-input form)  **C09 (byte level), comments allowed or not**: for every policy without AllowUnsafe and
    every input none of whose raw-text tags names an element the policy allows, if the tokens of the input
    are well nested, so are the tokens an HTML tokenizer reads from the returned bytes — a comment between
    tags is not an element -/
theorem C09_bytesC_on (p : Policy) (input : Bytes) (hp : PlainOn p.ensureInit (tokenize input))
    (hwn : wellNested (tokenize input) = true) : wellNested (tokenize (p.sanitizeCore input)) = true := by
  obtain ⟨ws, toks, hrun, hw, hout⟩ := C09_events p hp.noUnsafe input hwn
  rw [runWrites_reread hp hrun hw, wellNested, wn_coalesce, wn_map_reread]
  exact hout

/-- **C09 (byte level), comments allowed or not**: the same for every policy without AllowUnsafe and
    without a raw-text element on its allowlist -/
theorem C09_bytesC (p : Policy) (hp : PlainC p.ensureInit) (input : Bytes)
    (hwn : wellNested (tokenize input) = true) : wellNested (tokenize (p.sanitizeCore input)) = true :=
  C09_bytesC_on p input (hp.on _) hwn

/-- **C09 (byte level, plain policies)**: if the tokens of the input are well nested, so are the
    tokens an HTML tokenizer reads from the returned bytes. -/
theorem C09_bytes (p : Policy) (hp : Plain p.ensureInit) (input : Bytes)
    (hwn : wellNested (tokenize input) = true) : wellNested (tokenize (p.sanitizeCore input)) = true :=
  C09_bytesC_on p input (hp.toC.on _) hwn

example :
    let p : Policy := { initialized := true, elsAndAttrs := [(b!"a", [(b!"href", [none])]), (b!"b", []), (b!"img", [(b!"src", [none])])],
                        setOfElementsAllowedWithoutAttrs := [b!"b"] }
    p.sanitizeCore b!"<a><b><a href=x>1</a></b><img>2</a>3" = b!"<b><a href=\"x\">1</a></b>23" := by decide

/-! ### `oracleC09` on the model

An oracle (BM/Spec) is evaluated on the *implementation's* output; a case on which implementation and model
agree can only raise an alarm if the oracle is false on the model's output.  For the oracles with a `_model` theorem
(`oracleC01_model`, `oracleC04strict_model`, `oracleC06_model`, `oracleC08_model`, `oracleC09_model`,
`oracleC12_model`) that cannot happen: the byte-level theorems say exactly that the oracle holds of what
the model returns.  (Where a property has a known finding the corresponding statement is false by design and is
not made.) -/

/-- `oracleC09` holds of the model's output: every policy without AllowUnsafe, every input none of whose
    raw-text tags the policy allows -/
theorem oracleC09_model (p : Policy) (input : Bytes) (hp : PlainOn p.ensureInit (tokenize input)) :
    oracleC09 input (p.sanitizeCore input) = true := by
  unfold oracleC09
  cases hwn : wellNested (tokenize input) with
  | false => rfl
  | true => simp [C09_bytesC_on p input hp hwn]

end BM.Props
