import BM.Gen.SrcPins
/- WRITTEN by tools/repin.py from /repo at da0a256 (committed; re-checked against the regenerated
   BM/Gen/SrcPins.lean on every run).  The units of source the model and the proofs of C20 were
   written against: a change to one of them breaks `C20_source_pin`, and with it the obligations of
   this property only. -/
namespace BM.Props

def C20_units : List (String × String) := [
  ("sanitize.go/func/*Policy.Sanitize", "9ba7d669ac7a66cc"),
  ("sanitize.go/func/*Policy.SanitizeBytes", "757e2ab378b5f7df"),
  ("sanitize.go/func/*Policy.SanitizeReader", "08410f91f837f43a"),
  ("sanitize.go/func/*Policy.SanitizeReaderToWriter", "567a76ba99acc83b"),
  ("sanitize.go/func/*Policy.sanitizeWithBuff", "a00e1f64f0d0c903"),
  ("sanitize.go/func/*Policy.sanitizeAttrs/if:linkable(elementName)/if:p.requireParseableURLs", "ef3f9f1514c2daf5"),
  ("sanitize.go/func/*Policy.sanitizeAttrs/if:linkable(elementName)/if:(p.requireNoFollow || p.requireNoFollowFullyQualifiedLinks |", "2b17c4a72363ce0c"),
  ("sanitize.go/func/*Policy.sanitizeAttrs/if:p.requireCrossOriginAnonymous && len(cleanAttrs) > 0", "2ca403c50501b381"),
  ("sanitize.go/func/*Policy.sanitizeAttrs/if:p.requireSandboxOnIFrame != nil && elementName == \"iframe\"", "2ea14c0ddfac8b22"),
  ("sanitize.go/func/*Policy.validURL", "76fa5460391533f8"),
  ("sanitize.go/func/hasRelToken", "d88938df06d162a2"),
  ("sanitize.go/func/asciiEqualFold", "184516e10d84df87")
]

theorem C20_source_pin : C20_units.all (fun u => BM.Gen.srcPins.contains u) = true := by
  simp only [C20_units, BM.Gen.srcPins, List.all_cons, List.all_nil, List.contains_cons, beq_self_eq_true,
    Bool.or_true, Bool.true_or, Bool.and_self]

end BM.Props
