import BM.Gen.SrcPins
/- WRITTEN by tools/repin.py from /repo at da0a256 (committed; re-checked against the regenerated
   BM/Gen/SrcPins.lean on every run).  The units of source the model and the proofs of C13 were
   written against: a change to one of them breaks `C13_source_pin`, and with it the obligations of
   this property only. -/
namespace BM.Props

def C13_units : List (String × String) := [
  ("policy.go/type/Policy", "3f228ec260944688"),
  ("sanitize.go/func/*Policy.sanitizeAttrs/label:attrsLoop", "9e43b5a0c3b5e942"),
  ("sanitize.go/func/*Policy.sanitizeStyles", "db2e9243434eb3a3"),
  ("sanitize.go/func/*Policy.allowNoAttrs", "94b9cd29f5bdc0f7"),
  ("sanitize.go/func/*Policy.validURL", "76fa5460391533f8"),
  ("sanitize.go/func/*Policy.matchRegex", "2e064bc838cea7fd")
]

theorem C13_source_pin : C13_units.all (fun u => BM.Gen.srcPins.contains u) = true := by
  simp only [C13_units, BM.Gen.srcPins, List.all_cons, List.all_nil, List.contains_cons, beq_self_eq_true,
    Bool.or_true, Bool.true_or, Bool.and_self]

/-- the package-level variables, constants and types of the package (functions are not state): a new
    package-level variable — a cache, a pool, a shared default table, a sync.Once — or a changed one is a
    change to what a policy can share with other policies or remember between calls -/
def C13_inventory : List (String × String) := [
  ("helpers.go/var/CellAlign,CellVerticalAlign,Direction,ImageAlign,Integer,ISO8601,ListType,SpaceS", "6b749d40d9f47dae"),
  ("policy.go/type/Policy", "3f228ec260944688"),
  ("policy.go/type/attrPolicy", "b2ceb2423494d3be"),
  ("policy.go/type/stylePolicy", "7b015e5fb74f4933"),
  ("policy.go/type/attrPolicyBuilder", "4651cb16305a7ca8"),
  ("policy.go/type/stylePolicyBuilder", "e0d0db2057985649"),
  ("policy.go/type/urlPolicy", "285a2e431b67c8f2"),
  ("policy.go/type/urlRewriter", "d62ac156c80aa631"),
  ("policy.go/type/SandboxValue", "a9db4ddd8879c526"),
  ("policy.go/const/SandboxAllowDownloads,SandboxAllowDownloadsWithoutUserActivation,SandboxAllowFor", "5445d2e2c82af163"),
  ("sanitize.go/var/dataAttribute,dataAttributeXMLPrefix,dataAttributeInvalidChars,cssUnicodeChar,da", "2545e9727a056a18"),
  ("sanitize.go/type/Query", "f7f6082aee02d424"),
  ("sanitize.go/const/keptTagMarker", "8bc60fb6ea752b4e"),
  ("sanitize.go/type/asStringWriter", "8939da689d9e77eb"),
  ("sanitize.go/type/stringWriterWriter", "bfeb5d1524674eff")
]

theorem C13_inventory_pin : BM.Gen.srcState = C13_inventory := rfl

end BM.Props
