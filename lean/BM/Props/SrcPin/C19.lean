import BM.Gen.SrcPins
/- WRITTEN by tools/repin.py from /repo at da0a256 (committed; re-checked against the regenerated
   BM/Gen/SrcPins.lean on every run).  The units of source the model and the proofs of C19 were
   written against: a change to one of them breaks `C19_source_pin`, and with it the obligations of
   this property only. -/
namespace BM.Props

def C19_units : List (String × String) := [
]

theorem C19_source_pin : C19_units.all (fun u => BM.Gen.srcPins.contains u) = true := by
  simp only [C19_units, BM.Gen.srcPins, List.all_cons, List.all_nil, List.contains_cons, beq_self_eq_true,
    Bool.or_true, Bool.true_or, Bool.and_self]

end BM.Props
