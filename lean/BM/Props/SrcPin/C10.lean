import BM.Gen.SrcPins
/- WRITTEN by tools/repin.py from /repo at da0a256 (committed; re-checked against the regenerated
   BM/Gen/SrcPins.lean on every run).  The units of source the model and the proofs of C10 were
   written against: a change to one of them breaks `C10_source_pin`, and with it the obligations of
   this property only. -/
namespace BM.Props

def C10_units : List (String × String) := [
  ("sanitize.go/var/dataAttribute,dataAttributeXMLPrefix,dataAttributeInvalidChars,cssUnicodeChar,da", "2545e9727a056a18"),
  ("sanitize.go/func/*Policy.Sanitize", "9ba7d669ac7a66cc"),
  ("sanitize.go/func/*Policy.SanitizeBytes", "757e2ab378b5f7df"),
  ("sanitize.go/func/*Policy.SanitizeReader", "08410f91f837f43a"),
  ("sanitize.go/func/*Policy.SanitizeReaderToWriter", "567a76ba99acc83b"),
  ("sanitize.go/func/*Policy.sanitizeWithBuff", "a00e1f64f0d0c903"),
  ("sanitize.go/func/*Policy.sanitizeAttrs/assign:hasStylePolicies", "d8da24d0fbb0b241"),
  ("sanitize.go/func/*Policy.sanitizeAttrs/assign:sps", "80bac3c862d757fd"),
  ("sanitize.go/func/*Policy.sanitizeAttrs/if:len(p.globalStyles) > 0 || (elementHasStylePolicies && len(s", "d8dee8fd87731ded"),
  ("sanitize.go/func/*Policy.sanitizeAttrs/if:!hasStylePolicies", "52aa2feffed83588"),
  ("sanitize.go/func/*Policy.sanitizeAttrs/label:attrsLoop", "9e43b5a0c3b5e942"),
  ("sanitize.go/func/*Policy.sanitizeStyles", "db2e9243434eb3a3"),
  ("sanitize.go/func/stringInSlice", "8114044bf0f38c43"),
  ("sanitize.go/func/removeUnicode", "ca51db9784a9f542")
]

theorem C10_source_pin : C10_units.all (fun u => BM.Gen.srcPins.contains u) = true := by
  simp only [C10_units, BM.Gen.srcPins, List.all_cons, List.all_nil, List.contains_cons, beq_self_eq_true,
    Bool.or_true, Bool.true_or, Bool.and_self]

end BM.Props
