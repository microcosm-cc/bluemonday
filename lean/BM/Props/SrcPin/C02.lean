import BM.Gen.SrcPins
/- WRITTEN by tools/repin.py from /repo at da0a256 (committed; re-checked against the regenerated
   BM/Gen/SrcPins.lean on every run).  The units of source the model and the proofs of C02 were
   written against: a change to one of them breaks `C02_source_pin`, and with it the obligations of
   this property only. -/
namespace BM.Props

def C02_units : List (String × String) := [
  ("sanitize.go/var/dataAttribute,dataAttributeXMLPrefix,dataAttributeInvalidChars,cssUnicodeChar,da", "2545e9727a056a18"),
  ("sanitize.go/func/*Policy.Sanitize", "9ba7d669ac7a66cc"),
  ("sanitize.go/func/*Policy.SanitizeBytes", "757e2ab378b5f7df"),
  ("sanitize.go/func/*Policy.SanitizeReader", "08410f91f837f43a"),
  ("sanitize.go/func/*Policy.SanitizeReaderToWriter", "567a76ba99acc83b"),
  ("sanitize.go/func/*Policy.sanitizeWithBuff", "a00e1f64f0d0c903"),
  ("sanitize.go/func/*Policy.sanitize/case:html.StartTagToken", "06e5b6a502de1bc0"),
  ("sanitize.go/func/*Policy.sanitize/case:html.SelfClosingTagToken", "579a9bca378883dd"),
  ("sanitize.go/func/*Policy.sanitize/around-switch", "cd2e2ace16007f49"),
  ("sanitize.go/func/*Policy.sanitizeAttrs/signature", "d913fc8aa3d2005f"),
  ("sanitize.go/func/*Policy.sanitizeAttrs/if:len(attrs) == 0", "c54c2c729dfa58ef"),
  ("sanitize.go/func/*Policy.sanitizeAttrs/assign:hasStylePolicies", "d8da24d0fbb0b241"),
  ("sanitize.go/func/*Policy.sanitizeAttrs/assign:sps", "80bac3c862d757fd"),
  ("sanitize.go/func/*Policy.sanitizeAttrs/if:len(p.globalStyles) > 0 || (elementHasStylePolicies && len(s", "d8dee8fd87731ded"),
  ("sanitize.go/func/*Policy.sanitizeAttrs/if:!hasStylePolicies", "52aa2feffed83588"),
  ("sanitize.go/func/*Policy.sanitizeAttrs/assign:cleanAttrs", "d4506d12ad757ef2"),
  ("sanitize.go/func/*Policy.sanitizeAttrs/label:attrsLoop", "9e43b5a0c3b5e942"),
  ("sanitize.go/func/*Policy.sanitizeAttrs/if:len(cleanAttrs) == 0", "edfc5c0338cee2da"),
  ("sanitize.go/func/*Policy.sanitizeAttrs/return", "c7090781c01bac35"),
  ("sanitize.go/func/*Policy.allowNoAttrs", "94b9cd29f5bdc0f7"),
  ("sanitize.go/func/isDataAttribute", "391f11ab4465bab5"),
  ("sanitize.go/func/*Policy.matchRegex", "2e064bc838cea7fd")
]

theorem C02_source_pin : C02_units.all (fun u => BM.Gen.srcPins.contains u) = true := by
  simp only [C02_units, BM.Gen.srcPins, List.all_cons, List.all_nil, List.contains_cons, beq_self_eq_true,
    Bool.or_true, Bool.true_or, Bool.and_self]

end BM.Props
