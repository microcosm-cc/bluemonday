import BM.Gen.SrcPins
/- WRITTEN by tools/repin.py from /repo at da0a256 (committed; re-checked against the regenerated
   BM/Gen/SrcPins.lean on every run).  The units of source the model and the proofs of C17 were
   written against: a change to one of them breaks `C17_source_pin`, and with it the obligations of
   this property only. -/
namespace BM.Props

def C17_units : List (String × String) := [
  ("helpers.go/func/*Policy.AllowStandardURLs", "c11a419a5c09ebee"),
  ("helpers.go/func/*Policy.AllowStandardAttributes", "947c885049be3390"),
  ("helpers.go/func/*Policy.AllowStyling", "0832cf03d990f1a3"),
  ("helpers.go/func/*Policy.AllowImages", "09c21772d109205c"),
  ("helpers.go/func/*Policy.AllowDataURIImages", "81bb01275591c61b"),
  ("helpers.go/func/*Policy.AllowLists", "b0e1fbabcdf9c2d9"),
  ("helpers.go/func/*Policy.AllowTables", "d734afb4416f074a"),
  ("helpers.go/func/*Policy.AllowIFrames", "4fa002e81e124fe3"),
  ("policies.go/func/StrictPolicy", "45a1a2543be2854d"),
  ("policies.go/func/StripTagsPolicy", "53c67b823dc78feb"),
  ("policies.go/func/UGCPolicy", "717f7c1f94ad198b"),
  ("policy.go/type/Policy", "3f228ec260944688"),
  ("policy.go/type/attrPolicy", "b2ceb2423494d3be"),
  ("policy.go/type/stylePolicy", "7b015e5fb74f4933"),
  ("policy.go/type/attrPolicyBuilder", "4651cb16305a7ca8"),
  ("policy.go/type/stylePolicyBuilder", "e0d0db2057985649"),
  ("policy.go/type/urlPolicy", "285a2e431b67c8f2"),
  ("policy.go/type/urlRewriter", "d62ac156c80aa631"),
  ("policy.go/type/SandboxValue", "a9db4ddd8879c526"),
  ("policy.go/const/SandboxAllowDownloads,SandboxAllowDownloadsWithoutUserActivation,SandboxAllowFor", "5445d2e2c82af163"),
  ("policy.go/func/*Policy.init", "edb72c91a06d72e3"),
  ("policy.go/func/NewPolicy", "170fc79790b013cd"),
  ("policy.go/func/*Policy.AllowAttrs", "7365d0a955e08d80"),
  ("policy.go/func/*Policy.AllowDataAttributes", "ef95a1fe2eb6e84f"),
  ("policy.go/func/*Policy.AllowComments", "ff5f2f64213e15f6"),
  ("policy.go/func/*Policy.AllowNoAttrs", "458e8c8f318a5d36"),
  ("policy.go/func/*attrPolicyBuilder.AllowNoAttrs", "771a5140e6730c24"),
  ("policy.go/func/*attrPolicyBuilder.Matching", "d69ef591e1edb93a"),
  ("policy.go/func/*attrPolicyBuilder.OnElements", "830f229b87a7da9a"),
  ("policy.go/func/*attrPolicyBuilder.OnElementsMatching", "64f1ba318ae8286b"),
  ("policy.go/func/*attrPolicyBuilder.Globally", "3b120e917624992b"),
  ("policy.go/func/*Policy.AllowStyles", "d7e16fa2c0e1cb5b"),
  ("policy.go/func/*stylePolicyBuilder.Matching", "13c6b021f83a19d8"),
  ("policy.go/func/*stylePolicyBuilder.MatchingEnum", "df949ae4b0adc24a"),
  ("policy.go/func/*stylePolicyBuilder.MatchingHandler", "d6948435c72a67d6"),
  ("policy.go/func/*stylePolicyBuilder.OnElements", "c307dbaf21cf6314"),
  ("policy.go/func/*stylePolicyBuilder.OnElementsMatching", "a54456f4e747eaf8"),
  ("policy.go/func/*stylePolicyBuilder.Globally", "83d9b9785d6b3890"),
  ("policy.go/func/*Policy.AllowElements", "841ba302b019bb42"),
  ("policy.go/func/*Policy.AllowElementsMatching", "00e3bd3ddbd1d802"),
  ("policy.go/func/*Policy.AllowURLSchemesMatching", "811d9352291a43ac"),
  ("policy.go/func/*Policy.RewriteSrc", "3bd386cafc46a012"),
  ("policy.go/func/*Policy.RequireNoFollowOnLinks", "d19f7dcfec89af33"),
  ("policy.go/func/*Policy.RequireNoFollowOnFullyQualifiedLinks", "9aa4a237291f5671"),
  ("policy.go/func/*Policy.RequireNoReferrerOnLinks", "c6b60a1e73a44b7c"),
  ("policy.go/func/*Policy.RequireNoReferrerOnFullyQualifiedLinks", "57e6d66db5b0389e"),
  ("policy.go/func/*Policy.RequireCrossOriginAnonymous", "3a41eb2cbc44a7ac"),
  ("policy.go/func/*Policy.AddTargetBlankToFullyQualifiedLinks", "1d8eb0e29c1e7478"),
  ("policy.go/func/*Policy.RequireParseableURLs", "b5dd12d927ad9cad"),
  ("policy.go/func/*Policy.AllowRelativeURLs", "ce4b4d62f57239ce"),
  ("policy.go/func/*Policy.AllowURLSchemes", "59db7fd5cd84fcc4"),
  ("policy.go/func/*Policy.AllowURLSchemeWithCustomPolicy", "ffbf9435142a0e97"),
  ("policy.go/func/*Policy.RequireSandboxOnIFrame", "8183cc320e6d2052"),
  ("policy.go/func/*Policy.AddSpaceWhenStrippingTag", "87822e3d89f24a46"),
  ("policy.go/func/*Policy.SkipElementsContent", "de78fa99290faa66"),
  ("policy.go/func/*Policy.AllowElementsContent", "3090c80764012020"),
  ("policy.go/func/*Policy.AllowUnsafe", "cac89d744b339682"),
  ("policy.go/func/*Policy.addDefaultElementsWithoutAttrs", "b02fcd94d2523b79"),
  ("policy.go/func/*Policy.addDefaultSkipElementContent", "a3085e66453f02a2")
]

theorem C17_source_pin : C17_units.all (fun u => BM.Gen.srcPins.contains u) = true := by
  simp only [C17_units, BM.Gen.srcPins, List.all_cons, List.all_nil, List.contains_cons, beq_self_eq_true,
    Bool.or_true, Bool.true_or, Bool.and_self]

/-- the package-level variables, constants and types of the package (functions are not state): a new
    package-level variable — a cache, a pool, a shared default table, a sync.Once — or a changed one is a
    change to what a policy can share with other policies or remember between calls -/
def C17_inventory : List (String × String) := [
  ("helpers.go/var/CellAlign,CellVerticalAlign,Direction,ImageAlign,Integer,ISO8601,ListType,SpaceS", "6b749d40d9f47dae"),
  ("policy.go/type/Policy", "3f228ec260944688"),
  ("policy.go/type/attrPolicy", "b2ceb2423494d3be"),
  ("policy.go/type/stylePolicy", "7b015e5fb74f4933"),
  ("policy.go/type/attrPolicyBuilder", "4651cb16305a7ca8"),
  ("policy.go/type/stylePolicyBuilder", "e0d0db2057985649"),
  ("policy.go/type/urlPolicy", "285a2e431b67c8f2"),
  ("policy.go/type/urlRewriter", "d62ac156c80aa631"),
  ("policy.go/type/SandboxValue", "a9db4ddd8879c526"),
  ("policy.go/const/SandboxAllowDownloads,SandboxAllowDownloadsWithoutUserActivation,SandboxAllowFor", "5445d2e2c82af163"),
  ("sanitize.go/var/dataAttribute,dataAttributeXMLPrefix,dataAttributeInvalidChars,cssUnicodeChar,da", "2545e9727a056a18"),
  ("sanitize.go/type/Query", "f7f6082aee02d424"),
  ("sanitize.go/const/keptTagMarker", "8bc60fb6ea752b4e"),
  ("sanitize.go/type/asStringWriter", "8939da689d9e77eb"),
  ("sanitize.go/type/stringWriterWriter", "bfeb5d1524674eff")
]

theorem C17_inventory_pin : BM.Gen.srcState = C17_inventory := rfl

end BM.Props
