import BM.Gen.SrcPins
/- WRITTEN by tools/repin.py from /repo at da0a256 (committed; re-checked against the regenerated
   BM/Gen/SrcPins.lean on every run).  The units of source the model and the proofs of C07 were
   written against: a change to one of them breaks `C07_source_pin`, and with it the obligations of
   this property only. -/
namespace BM.Props

def C07_units : List (String × String) := [
  ("sanitize.go/func/*Policy.Sanitize", "9ba7d669ac7a66cc"),
  ("sanitize.go/func/*Policy.SanitizeBytes", "757e2ab378b5f7df"),
  ("sanitize.go/func/*Policy.SanitizeReader", "08410f91f837f43a"),
  ("sanitize.go/func/*Policy.SanitizeReaderToWriter", "567a76ba99acc83b"),
  ("sanitize.go/func/*Policy.sanitizeWithBuff", "a00e1f64f0d0c903"),
  ("sanitize.go/func/*Policy.sanitize/case:html.StartTagToken", "06e5b6a502de1bc0"),
  ("sanitize.go/func/*Policy.sanitize/case:html.EndTagToken", "13ba196cca634709"),
  ("sanitize.go/func/*Policy.sanitize/case:html.SelfClosingTagToken", "579a9bca378883dd"),
  ("sanitize.go/func/*Policy.sanitize/around-switch", "cd2e2ace16007f49"),
  ("sanitize.go/func/*Policy.sanitizeAttrs/label:attrsLoop", "9e43b5a0c3b5e942"),
  ("sanitize.go/func/*Policy.validURL", "76fa5460391533f8"),
  ("sanitize.go/func/*Policy.matchRegex", "2e064bc838cea7fd"),
  ("sanitize.go/func/normaliseElementName", "2bf67939cdf5b934")
]

theorem C07_source_pin : C07_units.all (fun u => BM.Gen.srcPins.contains u) = true := by
  simp only [C07_units, BM.Gen.srcPins, List.all_cons, List.all_nil, List.contains_cons, beq_self_eq_true,
    Bool.or_true, Bool.true_or, Bool.and_self]

end BM.Props
