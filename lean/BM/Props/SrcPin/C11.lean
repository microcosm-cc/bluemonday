import BM.Gen.SrcPins
/- WRITTEN by tools/repin.py from /repo at da0a256 (committed; re-checked against the regenerated
   BM/Gen/SrcPins.lean on every run).  The units of source the model and the proofs of C11 were
   written against: a change to one of them breaks `C11_source_pin`, and with it the obligations of
   this property only. -/
namespace BM.Props

def C11_units : List (String × String) := [
  ("sanitize.go/func/*Policy.Sanitize", "9ba7d669ac7a66cc"),
  ("sanitize.go/func/*Policy.SanitizeBytes", "757e2ab378b5f7df"),
  ("sanitize.go/func/*Policy.SanitizeReader", "08410f91f837f43a"),
  ("sanitize.go/func/*Policy.SanitizeReaderToWriter", "567a76ba99acc83b"),
  ("sanitize.go/func/*Policy.sanitizeWithBuff", "a00e1f64f0d0c903"),
  ("sanitize.go/func/*Policy.sanitizeAttrs/if:linkable(elementName)/if:(p.requireNoFollow || p.requireNoFollowFullyQualifiedLinks |", "2b17c4a72363ce0c"),
  ("sanitize.go/func/hasRelToken", "d88938df06d162a2"),
  ("sanitize.go/func/asciiEqualFold", "184516e10d84df87")
]

theorem C11_source_pin : C11_units.all (fun u => BM.Gen.srcPins.contains u) = true := by
  simp only [C11_units, BM.Gen.srcPins, List.all_cons, List.all_nil, List.contains_cons, beq_self_eq_true,
    Bool.or_true, Bool.true_or, Bool.and_self]

end BM.Props
