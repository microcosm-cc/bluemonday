import BM.Props.Pins
import BM.Proofs.AttrPass
import BM.Proofs.Prov
/-
  C12: forced attributes.  Proved for every policy, element and attribute list:
  * with RequireCrossOriginAnonymous, what `sanitizeAttrs` returns for audio / img / link /
    script / video, if non-empty, has at least one `crossorigin` and every `crossorigin`
    equals `anonymous`;
  * with RequireSandboxOnIFrame, what it returns for iframe has at least one `sandbox`, and
    every sandbox value is a space-joined, duplicate-free list of configured values.
  (A non-empty list is what "emitted with attributes" means: the loop writes the tag with
  exactly this list.)
-/
namespace BM.Props
open BM BM.Html

theorem forceCrossOrigin_spec (p : Policy) (el : Bytes) (clean : List Attr)
    (ho : p.requireCrossOriginAnonymous = true) (hel : isCrossOriginElement el = true) (hne : clean ≠ []) :
    (∃ a ∈ p.forceCrossOrigin el clean, a.key = b!"crossorigin") ∧
    (∀ a ∈ p.forceCrossOrigin el clean, a.key = b!"crossorigin" → a.val = b!"anonymous") := by
  have hlen : clean.length > 0 := List.length_pos_iff.mpr hne
  rw [forceCrossOrigin_eq]
  simp only [ho, hel, hlen, decide_true, Bool.and_self, ↓reduceIte]
  exact forceKey_spec (Q := (· = b!"anonymous")) (fun _ => rfl) rfl clean

theorem dedupKeep_spec (allowed : List Bytes) (vs acc : List Bytes)
    (hacc : acc.Nodup ∧ ∀ v ∈ acc, v ∈ allowed) :
    (dedupKeep allowed vs acc).Nodup ∧ ∀ v ∈ dedupKeep allowed vs acc, v ∈ allowed := by
  induction vs generalizing acc with
  | nil =>
    simp only [dedupKeep]
    exact ⟨hacc.1.perm (List.reverse_perm acc).symm, fun v hv => hacc.2 v (List.mem_reverse.mp hv)⟩
  | cons v vs ih =>
    unfold dedupKeep
    split
    · rename_i hk
      simp only [Bool.and_eq_true, List.contains_eq_mem, decide_eq_true_eq, Bool.not_eq_true',
        decide_eq_false_iff_not] at hk
      apply ih
      refine ⟨List.nodup_cons.mpr ⟨hk.2, hacc.1⟩, ?_⟩
      intro x hx
      simp only [List.mem_cons] at hx
      rcases hx with rfl | hx
      · exact hk.1
      · exact hacc.2 x hx
    · exact ih acc hacc

theorem forceSandbox_spec (p : Policy) (allowed : List Bytes) (clean : List Attr)
    (ho : p.requireSandboxOnIFrame = some allowed) :
    (∃ a ∈ p.forceSandbox b!"iframe" clean, a.key = b!"sandbox") ∧
    (∀ a ∈ p.forceSandbox b!"iframe" clean, a.key = b!"sandbox" →
      ∃ toks : List Bytes, a.val = joinBytes [32] toks ∧ toks.Nodup ∧ ∀ v ∈ toks, v ∈ allowed) := by
  rw [forceSandbox_eq]
  simp only [ho, beq_self_eq_true, ↓reduceIte]
  exact forceKey_spec (Q := fun v => ∃ toks : List Bytes, v = joinBytes [32] toks ∧ toks.Nodup ∧ ∀ t ∈ toks, t ∈ allowed)
    (fun a => ⟨_, rfl, dedupKeep_spec allowed (fields a.val) [] ⟨.nil, nofun⟩⟩) ⟨[], rfl, .nil, nofun⟩ clean

/-- **C12** on what `sanitizeAttrs` returns -/
theorem C12_sanitizeAttrs (p : Policy) (el : Bytes) (attrs : List Attr) (aps : AttrRules) (out : List Attr)
    (h : p.sanitizeAttrs el attrs aps = some out) (hne : out ≠ []) :
    (p.requireCrossOriginAnonymous = true → isCrossOriginElement el = true →
      (∃ a ∈ out, a.key = b!"crossorigin") ∧ ∀ a ∈ out, a.key = b!"crossorigin" → a.val = b!"anonymous") ∧
    (∀ allowed, p.requireSandboxOnIFrame = some allowed → el = b!"iframe" →
      (∃ a ∈ out, a.key = b!"sandbox") ∧
      ∀ a ∈ out, a.key = b!"sandbox" →
        ∃ toks : List Bytes, a.val = joinBytes [32] toks ∧ toks.Nodup ∧ ∀ v ∈ toks, v ∈ allowed) := by
  rcases sanitizeAttrs_some h with rfl | ⟨m, _, rfl⟩
  · exact absurd rfl hne
  unfold Policy.later at hne ⊢
  generalize p.hardenStage el m = mid at hne ⊢
  constructor
  · intro ho hel
    by_cases hmid : mid = []
    · -- the crossorigin block does not fire on an empty list; the result can then only be
      -- non-empty through the sandbox block, i.e. for iframe, which is not a crossorigin element
      subst hmid
      obtain ⟨a, ha⟩ := List.exists_mem_of_ne_nil _ hne
      rw [forceCrossOrigin_eq, if_neg (by simp)] at ha
      rcases forceSandbox_mem ha with ha | ⟨_, _, rfl⟩
      · cases ha
      · exact absurd hel (by decide)
    · -- the sandbox block leaves the crossorigin attributes as the crossorigin block made them
      obtain ⟨⟨a, ha, hk⟩, hall⟩ := forceCrossOrigin_spec p el mid ho hel hmid
      have hf := fun (a : Attr) (hk : a.key = b!"crossorigin") =>
        forceSandbox_other_keys p el (p.forceCrossOrigin el mid) a.key (by rw [hk]; decide)
      exact ⟨⟨a, mem_of_filter_eq (hf a hk).symm ha, hk⟩, fun a ha hk => hall a (mem_of_filter_eq (hf a hk) ha) hk⟩
  · intro allowed ho hel
    subst hel
    exact forceSandbox_spec p allowed _ ho

/-- **C12 (byte level, per input)**: every start or self-closing tag with attributes that an HTML tokenizer
    reads from the returned bytes satisfies the forced-attribute postconditions — audio/img/link/script/video
    carry `crossorigin="anonymous"` and no other crossorigin value; an iframe would carry a sandbox attribute
    whose tokens are a duplicate-free subset of the allowed values. -/
theorem C12_bytes_on (p : Policy) (input : Bytes) (hp : PlainOn p.ensureInit (tokenize input)) :
    ∀ k ∈ Html.tokenize (p.sanitizeCore input), (k.tt = .start ∨ k.tt = .selfClosing) → k.attrs ≠ [] →
      (p.ensureInit.requireCrossOriginAnonymous = true → isCrossOriginElement k.data = true →
        (∃ a ∈ k.attrs, a.key = b!"crossorigin") ∧ ∀ a ∈ k.attrs, a.key = b!"crossorigin" → a.val = b!"anonymous") ∧
      (∀ allowed, p.ensureInit.requireSandboxOnIFrame = some allowed → k.data = b!"iframe" →
        (∃ a ∈ k.attrs, a.key = b!"sandbox") ∧
        ∀ a ∈ k.attrs, a.key = b!"sandbox" →
          ∃ toks : List Bytes, a.val = joinBytes [32] toks ∧ toks.Nodup ∧ ∀ v ∈ toks, v ∈ allowed) := by
  intro k hk htt hne
  obtain ⟨t, _, aps, _, _, hs⟩ := reread_open_tagOn p input hp k hk htt hne
  exact C12_sanitizeAttrs p.ensureInit k.data t.attrs aps k.attrs hs hne

/-- **C12 (byte level)**: the same for every input, under a policy without AllowUnsafe and without a raw-text
    element on its allowlist. -/
theorem C12_bytes (p : Policy) (hp : PlainC p.ensureInit) (input : Bytes) :
    ∀ k ∈ Html.tokenize (p.sanitizeCore input), (k.tt = .start ∨ k.tt = .selfClosing) → k.attrs ≠ [] →
      (p.ensureInit.requireCrossOriginAnonymous = true → isCrossOriginElement k.data = true →
        (∃ a ∈ k.attrs, a.key = b!"crossorigin") ∧ ∀ a ∈ k.attrs, a.key = b!"crossorigin" → a.val = b!"anonymous") ∧
      (∀ allowed, p.ensureInit.requireSandboxOnIFrame = some allowed → k.data = b!"iframe" →
        (∃ a ∈ k.attrs, a.key = b!"sandbox") ∧
        ∀ a ∈ k.attrs, a.key = b!"sandbox" →
          ∃ toks : List Bytes, a.val = joinBytes [32] toks ∧ toks.Nodup ∧ ∀ v ∈ toks, v ∈ allowed) :=
  C12_bytes_on p input (hp.on _)

/-- non-vacuity -/
example :
    let p : Policy := { initialized := true, elsAndAttrs := [(b!"img", [(b!"src", [none]), (b!"crossorigin", [none])])],
                        requireCrossOriginAnonymous := true }
    p.sanitizeCore b!"<img src=x crossorigin=use-credentials crossorigin>" =
      b!"<img src=\"x\" crossorigin=\"anonymous\" crossorigin=\"anonymous\">" := by decide +kernel

section
open BM.Spec

/-- `oracleC12` on the model (see the end of Props/C09 for why this is stated): for every policy and every input none
    of whose raw-text tags names an allowed element, the oracle holds of what the model returns.  The crossorigin
    clause is `C12_bytes_on`; the sandbox clause is vacuous in this class, because an iframe tag in the output would
    come from an iframe tag of the input that the policy allows — a raw-text tag. -/
theorem oracleC12_model (p : Policy) (input : Bytes) (hp : PlainOn p.ensureInit (tokenize input)) :
    oracleC12 p.ensureInit (p.sanitizeCore input) = true := by
  unfold oracleC12
  rw [List.all_eq_true]
  intro k hk
  split
  · rfl
  -- a start or self-closing tag with attributes
  rename_i hc
  rw [Bool.or_eq_true, not_or, Bool.not_eq_true, Bool.not_eq_true, Bool.not_eq_eq_eq_not, Bool.not_false] at hc
  have htt : k.tt = .start ∨ k.tt = .selfClosing := by
    cases h : k.tt <;> rw [h] at hc <;> first | exact .inl rfl | exact .inr rfl | exact absurd hc.1 (by decide)
  have hne : k.attrs ≠ [] := fun h => by rw [h] at hc; exact absurd hc.2 (by decide)
  obtain ⟨hco, _⟩ := C12_bytes_on p input hp k hk htt hne
  rw [Bool.and_eq_true]
  constructor
  · cases hreq : p.ensureInit.requireCrossOriginAnonymous && isCoEl k.data
    · rfl
    · rw [Bool.and_eq_true] at hreq
      obtain ⟨⟨a, ha, hka⟩, hall⟩ := hco hreq.1 hreq.2
      rw [Bool.not_true, Bool.false_or, Bool.and_eq_true, List.any_eq_true, List.all_eq_true]
      refine ⟨⟨a, ha, by rw [hka]; rfl⟩, fun b hb => ?_⟩
      by_cases hkb : b.key = b!"crossorigin"
      · rw [hall b hb hkb, Bool.or_eq_true]; exact .inr rfl
      · rw [Bool.or_eq_true, bne_iff_ne]; exact .inl hkb
  · cases hsb : p.ensureInit.requireSandboxOnIFrame with
    | none => rfl
    | some allowed =>
      -- no iframe tag is re-read: it would come from an allowed iframe tag of the input, a raw-text tag
      rw [Bool.or_eq_true, bne_iff_ne]
      left
      intro hif
      obtain ⟨t, ht, aps, hd, hr, _⟩ := reread_open_tagOn p input hp k hk htt hne
      have hallow : allowsElement p.ensureInit t.data = true := by rw [hd]; exact attrRulesFor_allows' hr
      rw [hp.noRaw t ht (by rw [hd, hif]; decide)] at hallow
      cases hallow

end

end BM.Props
