import BM.Proofs.AttrPass
/-
  C11: link hardening, on the model of the hardening block (which the C11 `directed` family ties to the code over
  all 32 option sets).  For every attribute list, in any order and multiplicity, every rel value and every
  combination of the five options: a required link type ends up as a token of every rel attribute, of which there
  is at least one (`C11_hardenLinks`); it is not appended where it already is a token (`addRelToken_no_dup`), and
  no token is lost (`addRelToken_keeps`, `tokens_kept`).
  With AddTargetBlank… the first target attribute is `_blank` or one is added (`fixFirstTarget_first`).
  "Has a host" is net/url's notion (`u.Host != ""`); where a browser sees a host and net/url does not
  (`http:\\host`) the property fails on the real code — known finding `backslash-authority`.
-/
namespace BM.Props
open BM BM.Html

theorem asciiEqualFold_refl (t : Bytes) : asciiEqualFold t t = true := by simp [asciiEqualFold]

theorem split_wsfree (tok cur : Bytes) (h : ∀ c ∈ tok, isAsciiSpace c = false) :
    splitAsciiWs tok cur = if (cur.reverse ++ tok).isEmpty then [] else [cur.reverse ++ tok] := by
  induction tok generalizing cur with
  | nil => simp [splitAsciiWs]
  | cons c cs ih =>
    have hc : isAsciiSpace c = false := h c (by simp)
    have hcs : ∀ c' ∈ cs, isAsciiSpace c' = false := fun c' hc' => h c' (by simp [hc'])
    simp only [splitAsciiWs, hc, Bool.false_eq_true, ↓reduceIte]
    rw [ih (c :: cur) hcs]
    simp

/-- splitting after a separating space: the fields of `v` (continuing `cur`), then those of `w` -/
theorem split_append_sep (v w cur : Bytes) :
    splitAsciiWs (v ++ 32 :: w) cur = splitAsciiWs v cur ++ splitAsciiWs w [] := by
  induction v generalizing cur with
  | nil =>
    have h32 : isAsciiSpace 32 = true := by decide
    simp only [List.nil_append, splitAsciiWs, h32, ↓reduceIte]
  | cons c cs ih =>
    simp only [List.cons_append, splitAsciiWs]
    split
    · rw [ih []]; simp
    · exact ih (c :: cur)

theorem split_append_token (v tok cur : Bytes) (h : ∀ c ∈ tok, isAsciiSpace c = false) (hne : tok ≠ []) :
    splitAsciiWs (v ++ 32 :: tok) cur = splitAsciiWs v cur ++ [tok] := by
  rw [split_append_sep, split_wsfree tok [] h]
  cases tok with
  | nil => exact absurd rfl hne
  | cons t ts => simp

theorem hasRelToken_append_self (v tok : Bytes) (h : ∀ c ∈ tok, isAsciiSpace c = false) (hne : tok ≠ []) :
    hasRelToken (v ++ 32 :: tok) tok = true := by
  simp [hasRelToken, split_append_token v tok [] h hne, asciiEqualFold_refl]

/-- whatever is appended after a space, the tokens of the old value are still tokens -/
theorem hasRelToken_append_keeps (v w t : Bytes) (hv : hasRelToken v t = true) : hasRelToken (v ++ 32 :: w) t = true := by
  simp only [hasRelToken, split_append_sep, List.any_append] at hv ⊢
  simp [hv]

/-- the tokens of the old value are all still tokens, in order, followed by the new one -/
theorem tokens_kept (v tok : Bytes) (h : ∀ c ∈ tok, isAsciiSpace c = false) (hne : tok ≠ []) :
    splitAsciiWs (v ++ 32 :: tok) [] = splitAsciiWs v [] ++ [tok] := split_append_token v tok [] h hne

def WsFree (tok : Bytes) : Prop := (∀ c ∈ tok, isAsciiSpace c = false) ∧ tok ≠ []

theorem wsfree_nofollow : WsFree b!"nofollow" := by constructor <;> decide
theorem wsfree_noreferrer : WsFree b!"noreferrer" := by constructor <;> decide
theorem wsfree_noopener : WsFree b!"noopener" := by constructor <;> decide

/-- `addRelToken need tok` ensures the token when needed (here), never removes one (`addRelToken_keeps`), never
    duplicates (`addRelToken_no_dup`) -/
theorem addRelToken_has (tok v : Bytes) (hw : WsFree tok) : hasRelToken (addRelToken true tok v) tok = true := by
  unfold addRelToken
  by_cases h : hasRelToken v tok = true
  · simp [h]
  · simp only [Bool.true_and, h, Bool.not_false, ↓reduceIte]
    exact hasRelToken_append_self v tok hw.1 hw.2

/-- `addRelToken` never removes a token, whatever it appends -/
theorem addRelToken_mono (need : Bool) (tok v t : Bytes) (hv : hasRelToken v t = true) :
    hasRelToken (addRelToken need tok v) t = true := by
  unfold addRelToken
  split
  · exact hasRelToken_append_keeps v tok t hv
  · exact hv

theorem addRelToken_keeps (need : Bool) (tok v t : Bytes) (hw : WsFree tok) (hv : hasRelToken v t = true) :
    hasRelToken (addRelToken need tok v) t = true :=
  addRelToken_mono need tok v t hv

theorem addRelToken_no_dup (need : Bool) (tok v : Bytes) (hv : hasRelToken v tok = true) :
    addRelToken need tok v = v := by
  simp [addRelToken, hv]

theorem relFix_tokens (nf nr : Bool) (a : Attr) (hk : a.key = b!"rel") :
    (nf = true → hasRelToken (relFix nf nr a).val b!"nofollow" = true) ∧
    (nr = true → hasRelToken (relFix nf nr a).val b!"noreferrer" = true) := by
  unfold relFix
  constructor
  · intro h; subst h
    simp only [hk, beq_self_eq_true, Bool.true_or, Bool.and_self, ↓reduceIte]
    exact addRelToken_keeps nr _ _ _ wsfree_noreferrer (addRelToken_has _ _ wsfree_nofollow)
  · intro h; subst h
    simp only [hk, beq_self_eq_true, Bool.or_true, Bool.and_self, ↓reduceIte]
    exact addRelToken_has _ _ wsfree_noreferrer

theorem addNoOpener_spec (clean : List Attr) :
    (∃ a ∈ addNoOpener clean, a.key = b!"rel") ∧
    (∀ a ∈ addNoOpener clean, a.key = b!"rel" → hasRelToken a.val b!"noopener" = true) := by
  rw [addNoOpener_eq_forceKey]
  exact forceKey_spec (Q := fun v => hasRelToken v b!"noopener" = true) (fun _ => addRelToken_has _ _ wsfree_noopener)
    (by decide) clean

theorem addNoOpener_keeps (clean : List Attr) (t : Bytes)
    (h : ∀ a ∈ clean, a.key = b!"rel" → hasRelToken a.val t = true) :
    ∀ a ∈ addNoOpener clean, a.key = b!"rel" → (hasRelToken a.val t = true ∨ a.val = b!"noopener") := by
  intro a ha hak
  rw [addNoOpener_eq_forceKey] at ha
  rcases forceKey_origin ha with ⟨y, hy, rfl⟩ | ⟨_, rfl⟩
  · rw [setVal_val _ _ y hak]
    rw [setVal_key] at hak
    exact .inl (addRelToken_keeps true _ _ _ wsfree_noopener (h y hy hak))
  · exact .inr rfl

example : hasRelToken b!"xnofollowx author" b!"nofollow" = false ∧
          hasRelToken b!"author NoFollow" b!"nofollow" = true ∧
          addRelToken true b!"nofollow" b!"xnofollowx" = b!"xnofollowx nofollow" := by decide +kernel

def AllRel (t : Bytes) (l : List Attr) : Prop := ∀ a ∈ l, a.key = b!"rel" → hasRelToken a.val t = true
def HasRel (l : List Attr) : Prop := ∃ a ∈ l, a.key = b!"rel"

theorem hasRel_iff_any (l : List Attr) : HasRel l ↔ l.any (·.key == b!"rel") = true := by
  unfold HasRel
  simp [List.any_eq_true]

/-- `HasRel` and `AllRel` look at the rel attributes only -/
theorem hasRel_of_filter {l l' : List Attr} (h : l.filter (·.key == b!"rel") = l'.filter (·.key == b!"rel")) :
    HasRel l → HasRel l' :=
  fun ⟨a, ha, hk⟩ => ⟨a, mem_of_filter_eq (by rw [hk]; exact h) ha, hk⟩

theorem allRel_of_filter {t : Bytes} {l l' : List Attr} (h : l.filter (·.key == b!"rel") = l'.filter (·.key == b!"rel")) :
    AllRel t l → AllRel t l' :=
  fun hall a ha hk => hall a (mem_of_filter_eq (by rw [hk]; exact h.symm) ha) hk

theorem hasRel_map_relFix_iff (nf nr : Bool) (l : List Attr) : HasRel (l.map (relFix nf nr)) ↔ HasRel l := by
  rw [hasRel_iff_any, hasRel_iff_any, any_key_map (relFix_key nf nr)]

theorem not_hasRel_map_relFix (nf nr : Bool) (l : List Attr) (h : ¬HasRel l) : ¬HasRel (l.map (relFix nf nr)) :=
  fun h' => h ((hasRel_map_relFix_iff nf nr l).mp h')

theorem allRel_map_relFix {t : Bytes} {nf nr : Bool} (ht : ∀ a, a.key = b!"rel" → hasRelToken (relFix nf nr a).val t = true)
    (l : List Attr) : AllRel t (l.map (relFix nf nr)) := by
  intro a ha hk
  obtain ⟨x, _, rfl⟩ := List.mem_map.mp ha
  exact ht x (relFix_key nf nr x ▸ hk)

theorem allRel_append (t : Bytes) (l m : List Attr) (h1 : AllRel t l) (h2 : AllRel t m) : AllRel t (l ++ m) := by
  intro a ha hk
  rcases List.mem_append.mp ha with h | h
  · exact h1 a h hk
  · exact h2 a h hk

/-- the noopener sub-pass keeps every required token on every rel attribute, provided a rel
    attribute is already there (which is the case whenever a token was required) -/
theorem allRel_addNoOpener (t : Bytes) (l : List Attr) (hr : HasRel l) (h : AllRel t l) : AllRel t (addNoOpener l) := by
  intro a ha hk
  obtain ⟨r, hr, hrk⟩ := hr
  rw [addNoOpener_eq_forceKey] at ha
  rcases forceKey_origin ha with ⟨y, hy, rfl⟩ | ⟨hnone, _⟩
  · rw [setVal_val _ _ y hk]
    rw [setVal_key] at hk
    exact addRelToken_keeps true _ _ _ wsfree_noopener (h y hy hk)
  · exact absurd hrk (hnone r hr)

/-- the rel attribute that is appended when there was none carries the required tokens -/
theorem appended_rel_tokens (nf nr : Bool) :
    (nf = true → hasRelToken (newRelValue nf nr) b!"nofollow" = true) ∧
    (nr = true → hasRelToken (newRelValue nf nr) b!"noreferrer" = true) := by
  cases nf <;> cases nr <;> decide

/-- when a link type `t` is required — the rel sub-pass puts it on every rel attribute and the rel
    attribute that is appended carries it — the block leaves a rel attribute, and every rel attribute has `t` -/
theorem hardenCore_rel {isA nf nr tb : Bool} {l : List Attr} {t : Bytes} (need : (nf || nr) = true)
    (hmap : AllRel t (l.map (relFix nf nr))) (hnew : hasRelToken (newRelValue nf nr) t = true) :
    HasRel (hardenCore isA nf nr tb l) ∧ AllRel t (hardenCore isA nf nr tb l) := by
  -- up to the stage that appends a rel attribute: every rel has `t`, and a rel attribute of `l` is still there
  have h1 := holds_ite (Q := fun m => AllRel t m ∧ (HasRel l → HasRel m)) (c := isA && tb) fixFirstTarget
    ⟨hmap, (hasRel_map_relFix_iff nf nr l).mpr⟩ fun h _ =>
      have hf := (fixFirstTarget_filter (k := b!"rel") (by decide) _).symm
      ⟨allRel_of_filter hf h.1, fun hl => hasRel_of_filter hf (h.2 hl)⟩
  -- from that stage on there is one
  refine holds_ite (Q := fun m => HasRel m ∧ AllRel t m) addNoOpener
    (holds_ite (Q := fun m => HasRel m ∧ AllRel t m) (· ++ [_]) ?_ ?_) ?_
  · cases hc : l.any (·.key == b!"rel")
    · rw [need]
      refine ⟨⟨_, List.mem_append_right _ (List.mem_singleton.mpr rfl), rfl⟩, allRel_append t _ _ h1.1 ?_⟩
      intro a ha _
      rw [List.mem_singleton.mp ha]
      exact hnew
    · rw [Bool.not_true, Bool.and_false]
      exact ⟨h1.2 ((hasRel_iff_any l).mpr hc), h1.1⟩
  · intro ⟨⟨a, ha, hk⟩, hall⟩ _
    refine ⟨⟨a, List.mem_append_left _ ha, hk⟩, allRel_append t _ _ hall ?_⟩
    intro a ha hk
    rw [List.mem_singleton.mp ha] at hk
    exact absurd hk (by decide)
  · exact fun h _ => ⟨(addNoOpener_spec _).1, allRel_addNoOpener t _ h.1 h.2⟩

/-- when a target `_blank` is there or is added on an `a`, the noopener sub-pass runs last -/
theorem hardenCore_noopener {isA nf nr tb : Bool} {l : List Attr}
    (h : ((isA && ((l.any fun a => a.key == b!"target" && asciiEqualFold a.val b!"_blank") ||
        (tb && l.any (·.key == b!"target")))) || (isA && tb)) = true) :
    HasRel (hardenCore isA nf nr tb l) ∧ AllRel b!"noopener" (hardenCore isA nf nr tb l) := by
  unfold hardenCore
  simp only [h, ↓reduceIte]
  exact addNoOpener_spec _

/-- the link types that are required are on every rel attribute of what the block returns, and there is one -/
theorem hardenCore_required (isA nf nr tb : Bool) (l : List Attr) :
    (nf = true → HasRel (hardenCore isA nf nr tb l) ∧ AllRel b!"nofollow" (hardenCore isA nf nr tb l)) ∧
    (nr = true → HasRel (hardenCore isA nf nr tb l) ∧ AllRel b!"noreferrer" (hardenCore isA nf nr tb l)) :=
  ⟨fun hnf => hardenCore_rel (by rw [hnf]; rfl) (allRel_map_relFix (fun a hk => (relFix_tokens nf nr a hk).1 hnf) l)
      ((appended_rel_tokens nf nr).1 hnf),
   fun hnr => hardenCore_rel (by rw [hnr, Bool.or_true]) (allRel_map_relFix (fun a hk => (relFix_tokens nf nr a hk).2 hnr) l)
      ((appended_rel_tokens nf nr).2 hnr)⟩

/-- **C11 (model of the hardening block)**: for an element with an href, after the block
    * if nofollow is required (unconditionally, or because some href has a host and the
      fully-qualified option is on), there is a rel attribute and every rel attribute has it;
    * likewise noreferrer;
    * if the element is `a` and a target `_blank` is present or is to be added, there is a rel
      attribute and every rel attribute has noopener. -/
theorem C11_hardenLinks (p : Policy) (el : Bytes) (clean : List Attr)
    (hhref : (clean.filter (·.key == b!"href")).isEmpty = false) :
    let ext := (clean.filter (·.key == b!"href")).any fun a => match Url.parse a.val with
      | some u => !u.host.isEmpty
      | none => false
    let nf := p.requireNoFollow || (ext && p.requireNoFollowFullyQualifiedLinks)
    let nr := p.requireNoReferrer || (ext && p.requireNoReferrerFullyQualifiedLinks)
    let tb := ext && p.addTargetBlankToFullyQualifiedLinks
    let blank := el == b!"a" &&
      ((clean.any fun a => a.key == b!"target" && asciiEqualFold a.val b!"_blank") ||
       (tb && clean.any (·.key == b!"target")))
    let out := p.hardenLinks el clean
    (nf = true → HasRel out ∧ AllRel b!"nofollow" out) ∧
    (nr = true → HasRel out ∧ AllRel b!"noreferrer" out) ∧
    ((blank || (el == b!"a" && tb)) = true → HasRel out ∧ AllRel b!"noopener" out) := by
  intro ext nf nr tb blank out
  have hout : out = hardenCore (el == b!"a") nf nr tb clean := by
    show p.hardenLinks el clean = _
    rw [hardenLinks_core, if_neg (by rw [hhref]; exact Bool.false_ne_true)]
    rfl
  rw [hout]
  exact ⟨(hardenCore_required _ nf nr tb clean).1, (hardenCore_required _ nf nr tb clean).2, hardenCore_noopener⟩

/-- the target attributes after the block has set target `_blank`: the first one fixed, or one appended -/
def fixedTargets : List Attr → List Attr
  | [] => [⟨b!"target", b!"_blank"⟩]
  | a :: as => (if asciiEqualFold a.val b!"_blank" then a else ⟨a.key, b!"_blank"⟩) :: as

theorem fixedTargets_head (T : List Attr) :
    ∃ a as, fixedTargets T = a :: as ∧ asciiEqualFold a.val b!"_blank" = true := by
  cases T with
  | nil => exact ⟨_, _, rfl, by decide⟩
  | cons a as =>
    refine ⟨_, _, rfl, ?_⟩
    split
    · assumption
    · exact asciiEqualFold_refl _

/-- after the target fix, the first target attribute (the one a browser uses) is `_blank`,
    ASCII case-insensitively; if there is none there was none before (and the block appends one) -/
theorem fixFirstTarget_first (l : List Attr) :
    match (fixFirstTarget l).find? (·.key == b!"target") with
    | some a => asciiEqualFold a.val b!"_blank" = true
    | none => l.any (·.key == b!"target") = false := by
  rw [← List.head?_filter, fixFirstTarget_targets, any_key_filter]
  cases l.filter (·.key == b!"target") with
  | nil => rfl
  | cons a as =>
    obtain ⟨b, bs, h, hb⟩ := fixedTargets_head (a :: as)
    cases h
    exact hb

example :
    let p : Policy := { initialized := true, elsAndAttrs := [(b!"a", [(b!"href", [none]), (b!"rel", [none]), (b!"target", [none])])],
                        requireParseableURLs := true, allowURLSchemes := [(b!"http", [])],
                        requireNoFollowFullyQualifiedLinks := true, addTargetBlankToFullyQualifiedLinks := true }
    p.sanitizeCore b!"<a rel=\"xnofollowx\" target=\"_BLANK\" href=\"http://h/\">t</a>" =
      b!"<a rel=\"xnofollowx nofollow noopener\" target=\"_BLANK\" href=\"http://h/\">t</a>" := by decide +kernel

end BM.Props
