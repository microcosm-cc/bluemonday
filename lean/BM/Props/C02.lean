import BM.Proofs.Step
import BM.Proofs.AttrPass
import BM.Proofs.Prov
/-
  C02: only allowlisted attributes with accepted values.  An attribute survives the first pass of `sanitizeAttrs`
  only if it is a data attribute (data attributes enabled, name passing `isDataAttribute`), a style attribute
  governed by style rules, or accepted on its **original decoded value** by a rule registered for the element
  (explicit rules, or the merged rules of every matching pattern) or by a global rule (`Justified`).  Later passes
  only drop attributes, rewrite URL attributes, or add / force rel, target, crossorigin, sandbox (C03, C11, C12):
  `Kept`, for the whole of `sanitizeAttrs` and, re-read from the bytes, `C02_bytes_on`.  A tag is written only
  with a non-empty attribute list or for an element allowed without attributes (`C02_never_bare`).
-/
namespace BM.Props
open BM BM.Html

/-- why an attribute may survive the first pass -/
inductive Justified (p : Policy) (el : Bytes) (aps : AttrRules) (a : Attr) : Attr → Prop where
  | data : p.allowDataAttributes = true → isDataAttribute a.key = true → Justified p el aps a a
  | style (v : Bytes) : a.key = b!"style" → p.hasStylePolicies el = true → v ≠ [] →
      v = p.sanitizeStyles a.val el → Justified p el aps a ⟨a.key, v⟩
  | elementRule (apl : List AttrPolicy) : aps.get? a.key = some apl →
      attrPoliciesAccept apl a.val = true → Justified p el aps a a
  | globalRule (apl : List AttrPolicy) : p.globalAttrs.get? a.key = some apl →
      attrPoliciesAccept apl a.val = true → Justified p el aps a a

theorem filterAttr_justified (p : Policy) (el : Bytes) (aps : AttrRules) (a b : Attr)
    (h : p.filterAttr el aps (p.hasStylePolicies el) a = some b) : Justified p el aps a b := by
  rcases filterAttr_some h with ⟨hd, rfl⟩ | ⟨_, ⟨hs, hv, rfl⟩ | ⟨_, rfl, ⟨apl, hget, hacc⟩ | ⟨apl, hget, hacc⟩⟩⟩
  · rw [Bool.and_eq_true] at hd
    exact .data hd.1 hd.2
  · rw [Bool.and_eq_true, beq_iff_eq] at hs
    exact .style _ hs.1 hs.2 hv rfl
  · exact .elementRule apl hget hacc
  · exact .globalRule apl hget hacc

/-- rules are additive: a value accepted by one of several rules is accepted -/
theorem accept_append (l1 l2 : List AttrPolicy) (v : Bytes) :
    attrPoliciesAccept (l1 ++ l2) v = (attrPoliciesAccept l1 v || attrPoliciesAccept l2 v) := by
  simp [attrPoliciesAccept, List.any_append]

theorem firstPass_justified (p : Policy) (el : Bytes) (aps : AttrRules) (attrs : List Attr) :
    ∀ b ∈ attrs.filterMap (p.filterAttr el aps (p.hasStylePolicies el)),
      ∃ a ∈ attrs, Justified p el aps a b := by
  intro b hb
  obtain ⟨a, ha, hab⟩ := List.mem_filterMap.mp hb
  exact ⟨a, ha, filterAttr_justified p el aps a b hab⟩

/-- an element the policy permits only with attributes is never written bare -/
theorem C02_never_bare (p : Policy) (st : LoopState) (t : Token) (ws : List Write) (he : Emit p st t ws)
    (htt : t.tt = .start ∨ t.tt = .selfClosing) :
    ∀ w ∈ ws, w.data = [32] ∨ ∃ attrs : List Attr,
      w.data = ({ t with attrs := attrs } : Token).render ∧ (attrs ≠ [] ∨ p.allowNoAttrs t.data = true) := by
  cases he with
  | nothing => simp
  | space _ => intro w hw; simp at hw; subst hw; exact .inl rfl
  | comment h _ => rcases htt with h' | h' <;> simp [h'] at h
  | openTag aps attrs _ _ _ _ hbare _ =>
    intro w hw; simp at hw; subst hw
    refine .inr ⟨attrs, rfl, ?_⟩
    by_cases hne : attrs = []
    · right; subst hne; simpa using hbare
    · exact .inl hne
  | closeTag h _ _ => rcases htt with h' | h' <;> simp [h'] at h
  | text h _ _ => rcases htt with h' | h' <;> simp [h'] at h
  | rawText h _ _ => rcases htt with h' | h' <;> simp [h'] at h

/-- attributes the sanitiser itself adds or forces -/
def forcedKey (k : Bytes) : Prop := k = b!"rel" ∨ k = b!"target" ∨ k = b!"crossorigin" ∨ k = b!"sandbox"
/-- attributes whose value the URL pass may replace by its normalised form -/
def urlKey (k : Bytes) : Prop := k = b!"href" ∨ k = b!"cite" ∨ k = b!"src"

/-- why an attribute may be in the result of `sanitizeAttrs`: it is one the sanitiser adds or
    forces, or it survived the first pass (so it is justified by the policy, on its original
    decoded value) and carries that value — or, for href/cite/src, what the URL pass made of it -/
def Kept (p : Policy) (el : Bytes) (aps : AttrRules) (attrs : List Attr) (b : Attr) : Prop :=
  forcedKey b.key ∨ ∃ a ∈ attrs, ∃ b0, Justified p el aps a b0 ∧ b0.key = b.key ∧ (b.val = b0.val ∨ urlKey b.key)

/-- **C02 for the whole of `sanitizeAttrs`** (every policy, element, attribute list): every
    attribute it returns is one the sanitiser adds or forces (rel, target, crossorigin, sandbox),
    or survived the first pass — hence is a well-formed data attribute with data attributes
    enabled, the filtered style attribute, or accepted on its original decoded value by a rule
    registered for the element (merged rules of every matching pattern) or globally — and still
    carries that value, except that href/cite/src may carry the URL pass's normalisation of it. -/
theorem C02_sanitizeAttrs (p : Policy) (el : Bytes) (attrs : List Attr) (aps : AttrRules) (out : List Attr)
    (h : p.sanitizeAttrs el attrs aps = some out) : ∀ b ∈ out, Kept p el aps attrs b := by
  intro b hb
  rcases sanitizeAttrs_mem h hb with ⟨b0, hb0, hk, hv⟩ | hadd
  · obtain ⟨a, ha, hj⟩ := firstPass_justified p el aps attrs b0 hb0
    exact .inr ⟨a, ha, b0, hj, hk.symm, hv.imp_right fun hpos => hk ▸ isUrlPosition_key hpos⟩
  · exact .inl hadd.addedKey

/-- **C02 (byte level, per input)**: every attribute on every start or self-closing tag an HTML tokenizer
    reads from the returned bytes is `Kept` for an input tag of that element. -/
theorem C02_bytes_on (p : Policy) (input : Bytes) (hp : PlainOn p.ensureInit (tokenize input)) :
    ∀ k ∈ tokenize (p.sanitizeCore input), (k.tt = .start ∨ k.tt = .selfClosing) →
      ∀ b ∈ k.attrs, ∃ t ∈ tokenize input, ∃ aps, t.data = k.data ∧
        p.ensureInit.attrRulesFor k.data = some aps ∧ Kept p.ensureInit k.data aps t.attrs b := by
  intro k hk htt b hb
  obtain ⟨t, ht, aps, hd, hr, hs⟩ := reread_open_tagOn p input hp k hk htt (List.ne_nil_of_mem hb)
  exact ⟨t, ht, aps, hd, hr, C02_sanitizeAttrs p.ensureInit k.data t.attrs aps k.attrs hs b hb⟩

/-- **C02 (byte level)**: the same for every input, under a policy without AllowUnsafe and without a raw-text
    element on its allowlist. -/
theorem C02_bytes (p : Policy) (hp : PlainC p.ensureInit) (input : Bytes) :
    ∀ k ∈ tokenize (p.sanitizeCore input), (k.tt = .start ∨ k.tt = .selfClosing) →
      ∀ b ∈ k.attrs, ∃ t ∈ tokenize input, ∃ aps, t.data = k.data ∧
        p.ensureInit.attrRulesFor k.data = some aps ∧ Kept p.ensureInit k.data aps t.attrs b :=
  C02_bytes_on p input (hp.on _)

/-- non-vacuity: two overlapping rules, the value matches only the second -/
example :
    let digits : Pat := ⟨1, fun v => v.all isDigit && !v.isEmpty⟩
    let lower : Pat := ⟨2, fun v => v.all isLowerA && !v.isEmpty⟩
    let p : Policy := { initialized := true, elsAndAttrs := [(b!"b", [(b!"id", [some digits, some lower])])] }
    p.sanitizeCore b!"<b id=abc>x</b><b id=A1>y</b><b>z</b>" = b!"<b id=\"abc\">x</b>yz" := by decide +kernel

end BM.Props
