import BM.Props.C02
import BM.Props.C17
import BM.Proofs.WFBuild
/-
  C02 for whole policies, by induction over builder histories.  `C02_sanitizeAttrs` justifies every returned
  attribute by the policy's tables; here the tables are traced back to the calls that filled them
  (`Policy.NoRules.built`): on an explicitly named element of a policy built from `NewPolicy()`, an attribute that is
  neither added by the sanitiser, nor a data attribute, nor the filtered style attribute reaches the result only
  if some `AllowAttrs(…k…)[.Matching(re)].OnElements(…el…)` or `.Globally()` call of the history — anywhere, in
  any spelling — has no pattern or a pattern accepting the attribute's decoded value.
-/
namespace BM.Props
open BM BM.Html

/-- accepted by a call of the history: an element-scoped or a global `AllowAttrs` naming the attribute, whose
    pattern (if any) matches the value -/
def AllowedByCall (ops : List BuilderOp) (el k v : Bytes) : Prop :=
  ∃ op ∈ ops, ∃ ap, (op.addsElemRule el k ap ∨ op.addsGlobalRule k ap) ∧
    (match ap with | none => true | some r => r.test v) = true

/-- **C02 traced back to the builder history** (explicitly named elements), for every policy built from one without
    rules (`NewPolicy()` with its default sets included): every attribute `sanitizeAttrs`
    returns is one the sanitiser adds or forces, or comes from an attribute `a` of the tag that is a data attribute,
    the style attribute, or allowed by a call of the history on its decoded value — and, unless it is the style
    attribute, carries that value, except that href / cite / src may carry the URL pass's form of it -/
theorem C02_built_from (d : Bytes → Bytes → Bool) {p0 : Policy} (h0 : p0.NoRules) (ops : List BuilderOp) (el : Bytes)
    (attrs out : List Attr)
    (h : (applyOps d p0 ops).sanitizeAttrs el attrs (rulesOf (applyOps d p0 ops).elsAndAttrs el) = some out) :
    ∀ b ∈ out, forcedKey b.key ∨ ∃ a ∈ attrs, a.key = b.key ∧
      ((isDataAttribute a.key = true ∧ b.val = a.val) ∨ a.key = b!"style" ∨
       (AllowedByCall ops el a.key a.val ∧ (b.val = a.val ∨ urlKey b.key))) := by
  intro b hb
  rcases C02_sanitizeAttrs _ el attrs _ out h b hb with hf | ⟨a, ha, b0, hj, hkey, hval⟩
  · exact .inl hf
  · right
    -- a rule list that accepts holds a rule that accepts
    have some_rule (T : AttrRules) (apl : List AttrPolicy) (hget : T.get? a.key = some apl)
        (hacc : attrPoliciesAccept apl a.val = true) :
        ∃ ap ∈ rulesOf T a.key, (match ap with | none => true | some r => r.test a.val) = true :=
      (accept_iff_mem T a.key a.val).mp (by rw [hget]; exact hacc)
    cases hj with
    | data _ hd =>
      refine ⟨a, ha, hkey, .inl ⟨hd, ?_⟩⟩
      rcases hval with hv | hu
      · exact hv
      · -- a data attribute is not a URL attribute
        exfalso
        rw [← hkey] at hu
        unfold urlKey at hu
        rcases hu with hu | hu | hu <;> rw [hu] at hd <;> revert hd <;> decide
    | style v hk _ _ _ => exact ⟨a, ha, hkey, .inr (.inl hk)⟩
    | elementRule apl hget hacc =>
      obtain ⟨ap, hmem, hok⟩ := some_rule _ apl hget hacc
      obtain ⟨op, hop, hadd⟩ := (h0.built d ops (.elemRule el a.key ap) nofun).mp hmem
      exact ⟨a, ha, hkey, .inr (.inr ⟨⟨op, hop, ap, .inl hadd, hok⟩, hval⟩)⟩
    | globalRule apl hget hacc =>
      obtain ⟨ap, hmem, hok⟩ := some_rule _ apl hget hacc
      obtain ⟨op, hop, hadd⟩ := (h0.built d ops (.globalRule a.key ap) nofun).mp hmem
      exact ⟨a, ha, hkey, .inr (.inr ⟨⟨op, hop, ap, .inr hadd, hok⟩, hval⟩)⟩

/-- **C02 traced back to the builder history**, from the empty initialised policy -/
theorem C02_built_policy (d : Bytes → Bytes → Bool) (ops : List BuilderOp) (el : Bytes) (attrs out : List Attr)
    (h : (applyOps d { initialized := true } ops).sanitizeAttrs el attrs
          (rulesOf (applyOps d { initialized := true } ops).elsAndAttrs el) = some out) :
    ∀ b ∈ out, forcedKey b.key ∨ ∃ a ∈ attrs, a.key = b.key ∧
      ((isDataAttribute a.key = true ∧ b.val = a.val) ∨ a.key = b!"style" ∨
       (AllowedByCall ops el a.key a.val ∧ (b.val = a.val ∨ urlKey b.key))) :=
  C02_built_from d noRules_new ops el attrs out h

end BM.Props
