import BM.Gen.Shipped
import BM.Spec.More
import BM.Props.C01
import BM.Props.C04
import BM.Props.C02
import BM.Props.C03
import BM.Proofs.AttrPass
import BM.Proofs.ViewTables
/-
  C04 (UGC half), at byte level, on the policy **regenerated from policies.go on every run**
  (`Gen.ugcPolicy` = the builder calls of `UGCPolicy()` applied to `NewPolicy()`):
  for every input, every token an HTML tokenizer reads from what UGCPolicy returns is a text or
  a tag of the documented UGC vocabulary (`Spec.ugcElements`), every attribute on it is in the
  documented attribute table for that element (`Spec.ugcAttrOk`) — no event handler, no style —
  and every href / cite / src is the printed form of a parsed URL whose scheme is http, https
  or mailto, or of a relative reference — for net/url and, by the WHATWG scheme-state rules, for a browser
  (`C04_ugc_urls_browser`).  No comment, no doctype.  What is not proved: the tree-builder (DOM) reading.
-/
namespace BM.Props
open BM BM.Html BM.Spec

theorem ugc_switches :
    Gen.ugcPolicy.initialized = true ∧ Gen.ugcPolicy.allowUnsafe = false ∧ Gen.ugcPolicy.allowComments = false ∧
    Gen.ugcPolicy.allowDataAttributes = false ∧ Gen.ugcPolicy.requireParseableURLs = true ∧
    Gen.ugcPolicy.requireCrossOriginAnonymous = false ∧ Gen.ugcPolicy.requireSandboxOnIFrame = none ∧
    Gen.ugcPolicy.srcRewriter = none := by decide +kernel

theorem ugc_flags : Gen.ugcPolicy.requireNoFollow = true ∧ Gen.ugcPolicy.requireNoReferrer = false ∧
    Gen.ugcPolicy.requireNoReferrerFullyQualifiedLinks = false ∧
    Gen.ugcPolicy.addTargetBlankToFullyQualifiedLinks = false := by decide +kernel

theorem ugc_noTables :
    Gen.ugcPolicy.globalStyles = [] ∧ Gen.ugcPolicy.elsAndStyles = [] ∧ Gen.ugcPolicy.elsMatchingAndStyles = [] ∧
    Gen.ugcPolicy.elsMatchingAndAttrs = [] ∧ Gen.ugcPolicy.allowURLSchemeRegexps = [] := by decide +kernel

theorem ugc_schemes :
    (Gen.ugcPolicy.allowURLSchemes.all fun r => [b!"mailto", b!"http", b!"https"].contains r.1) = true := by decide +kernel

theorem ugc_keys : (Gen.ugcPolicy.elsAndAttrs.all fun e => ugcElements.contains e.1) = true := by decide +kernel

theorem ugc_init : Gen.ugcPolicy.ensureInit = Gen.ugcPolicy := by
  simp [Policy.ensureInit, ugc_switches.1]

theorem ugc_noStyle (el : Bytes) : Gen.ugcPolicy.hasStylePolicies el = false := by
  obtain ⟨h1, h2, h3, _⟩ := ugc_noTables
  simp [Policy.hasStylePolicies, h1, h2, h3, Map.get?]

/-- UGC has no element patterns: the rules for an element are its own entry -/
theorem ugc_attrRulesFor (el : Bytes) (aps : AttrRules) (h : Gen.ugcPolicy.attrRulesFor el = some aps) :
    (el, aps) ∈ Gen.ugcPolicy.elsAndAttrs := by
  unfold Policy.attrRulesFor at h
  cases hg : Gen.ugcPolicy.elsAndAttrs.get? el with
  | some a => rw [hg] at h; cases h; exact Map.mem_of_get? _ _ _ hg
  | none => rw [hg] at h; simp [Policy.matchRegex, ugc_noTables.2.2.2.1] at h

theorem ugc_allows (n : Bytes) (h : allowsElement Gen.ugcPolicy n = true) : ugcElements.contains n = true := by
  unfold allowsElement at h
  rw [ugc_noTables.2.2.2.1] at h
  simp only [List.any_nil, Bool.or_false, Map.contains] at h
  cases hg : Gen.ugcPolicy.elsAndAttrs.get? n with
  | none => rw [hg] at h; cases h
  | some aps => exact List.all_eq_true.mp ugc_keys _ (Map.mem_of_get? _ _ _ hg)

theorem ugc_no_raw : (ugcElements.all fun n => !isRawTagName n) = true := by decide +kernel

theorem ugc_plain : Plain Gen.ugcPolicy.ensureInit := by
  rw [ugc_init]
  refine ⟨ugc_switches.2.1, ugc_switches.2.2.1, ?_⟩
  intro n hn
  cases h : allowsElement Gen.ugcPolicy n with
  | false => rfl
  | true =>
    have := List.all_eq_true.mp ugc_no_raw n (List.contains_iff_mem.mp (ugc_allows n h))
    rw [hn] at this
    cases this

/-- **C04-UGC, elements**: every token re-read from UGCPolicy's output is a text or a tag of a
    documented element; no comment, no doctype, no script/style/iframe/object/embed/form control/
    base/meta/link (none of them is in the documented vocabulary) -/
theorem C04_ugc_elements (input : Bytes) :
    ∀ k ∈ tokenize (Gen.ugcPolicy.sanitizeCore input),
      k.tt = .text ∨ (isTag k = true ∧ ugcElements.contains k.data = true) := by
  intro k hk
  rcases C01_bytes Gen.ugcPolicy ugc_plain input k hk with h | ⟨h1, h2⟩
  · exact .inl h
  · rw [ugc_init] at h2
    exact .inr ⟨h1, ugc_allows k.data h2⟩

theorem ugc_vocabulary_excludes :
    ∀ n ∈ [b!"script", b!"style", b!"iframe", b!"object", b!"embed", b!"form", b!"input", b!"button", b!"select",
           b!"textarea", b!"base", b!"meta", b!"link", b!"svg", b!"math", b!"frame", b!"frameset", b!"applet"],
      ugcElements.contains n = false := by decide +kernel

theorem ugc_rules_documented :
    (Gen.ugcPolicy.elsAndAttrs.all fun e => e.2.all fun r => ugcAttrOk e.1 r.1) = true ∧
    (Gen.ugcPolicy.globalAttrs.all fun r => ugcGlobalAttrs.contains r.1) = true := by decide +kernel

/-- **C04-UGC, attributes**: every attribute on every start / self-closing tag re-read from
    UGCPolicy's output is in the documented table for that element; in particular no `on…` event
    handler and no `style` (neither is in the table) -/
theorem C04_ugc_attrs (input : Bytes) :
    ∀ k ∈ tokenize (Gen.ugcPolicy.sanitizeCore input), (k.tt = .start ∨ k.tt = .selfClosing) →
      ∀ b ∈ k.attrs, ugcAttrOk k.data b.key = true := by
  intro k hk htt b hb
  obtain ⟨t, _, aps, _, hr, hs⟩ := reread_open_tag Gen.ugcPolicy ugc_plain input k hk htt (List.ne_nil_of_mem hb)
  rw [ugc_init] at hr hs
  have hmem := ugc_attrRulesFor k.data aps hr
  rcases sanitizeAttrs_keys Gen.ugcPolicy k.data t.attrs aps k.attrs hs b hb with ⟨b0, hb0, hkey⟩ | hadd
  · -- a first-pass survivor: justified by an element rule or a global rule
    obtain ⟨a, _, hj⟩ := firstPass_justified Gen.ugcPolicy k.data aps t.attrs b0 hb0
    rw [← hkey]
    cases hj with
    | data hd _ => rw [ugc_switches.2.2.2.1] at hd; cases hd
    | style v _ hsty _ _ => rw [ugc_noStyle] at hsty; cases hsty
    | elementRule apl hget _ =>
      have hrule := Map.mem_of_get? _ _ _ hget
      have := List.all_eq_true.mp ugc_rules_documented.1 _ hmem
      exact List.all_eq_true.mp this _ hrule
    | globalRule apl hget _ =>
      have hrule := Map.mem_of_get? _ _ _ hget
      have := List.all_eq_true.mp ugc_rules_documented.2 _ hrule
      simp only [ugcAttrOk, Bool.or_eq_true]
      exact .inl this
  · -- added by the sanitiser: only rel on a / area (RequireNoFollowOnLinks), the other options are off
    have helem := ugc_allows k.data (attrRulesFor_allows' hr)
    rcases hadd with ⟨hk', _, hel⟩ | ⟨_, htb, _⟩ | ⟨_, hco, _⟩ | ⟨_, hsb, _⟩
    · rw [hk']
      simp only [isHrefElement, Bool.or_eq_true, beq_iff_eq] at hel
      rcases hel with ((h | h) | h) | h <;> rw [h] at helem ⊢ <;> first | decide | (exact absurd helem (by decide))
    · rw [ugc_flags.2.2.2] at htb; cases htb
    · rw [ugc_switches.2.2.2.2.2.1] at hco; cases hco
    · rw [ugc_switches.2.2.2.2.2.2.1] at hsb; cases hsb

/-- **C04-UGC, URLs**: every href / cite / src at a checked position is the printed form of a URL
    net/url parsed whose scheme is mailto, http or https, or of a relative reference -/
theorem C04_ugc_urls (input : Bytes) :
    ∀ k ∈ tokenize (Gen.ugcPolicy.sanitizeCore input), (k.tt = .start ∨ k.tt = .selfClosing) →
      ∀ b ∈ k.attrs, isUrlPosition k.data b.key = true →
        ∃ u : Url.URL, b.val = Url.print u ∧
          (u.scheme = b!"mailto" ∨ u.scheme = b!"http" ∨ u.scheme = b!"https" ∨ u.scheme = []) := by
  intro k hk htt b hb hpos
  have hreq : Gen.ugcPolicy.ensureInit.requireParseableURLs = true := by rw [ugc_init]; exact ugc_switches.2.2.2.2.1
  have hnr : Gen.ugcPolicy.ensureInit.srcRewriter = none := by rw [ugc_init]; exact ugc_switches.2.2.2.2.2.2.2
  obtain ⟨raw, hv⟩ := C03_bytes Gen.ugcPolicy ugc_plain.toC hreq input k hk htt b hb hpos (fun _ => hnr)
  obtain ⟨_, u, _, hprint, hacc⟩ := validURL_sound _ raw b.val hreq hv
  refine ⟨u, hprint, ?_⟩
  rw [ugc_init] at hacc
  rcases hacc with ⟨_, hs⟩ | ⟨hs, _⟩
  · rcases hs with ⟨checks, hget, _⟩ | ⟨_, hre⟩
    · have hmem := Map.mem_of_get? _ _ _ hget
      have := List.all_eq_true.mp ugc_schemes _ hmem
      simp only [List.contains_cons, List.contains_nil, Bool.or_false, Bool.or_eq_true, beq_iff_eq] at this
      rcases this with h | h | h
      · exact .inl h
      · exact .inr (.inl h)
      · exact .inr (.inr (.inl h))
    · rw [ugc_noTables.2.2.2.2] at hre; simp at hre
  · exact .inr (.inr (.inr hs))

/-- **C04-UGC, URLs as a browser reads them**: every href / cite / src at a checked position is,
    by the WHATWG scheme-state rules, a URL with scheme mailto, http or https — never javascript:,
    data:, vbscript: or any other — or a relative reference -/
theorem C04_ugc_urls_browser (input : Bytes) :
    ∀ k ∈ tokenize (Gen.ugcPolicy.sanitizeCore input), (k.tt = .start ∨ k.tt = .selfClosing) →
      ∀ b ∈ k.attrs, isUrlPosition k.data b.key = true →
        (∃ s, classifyUrl b.val = .scheme s ∧ [b!"mailto", b!"http", b!"https"].contains s = true) ∨
        classifyUrl b.val = .relative := by
  intro k hk htt b hb hpos
  have hreq : Gen.ugcPolicy.ensureInit.requireParseableURLs = true := by rw [ugc_init]; exact ugc_switches.2.2.2.2.1
  have hnr : Gen.ugcPolicy.ensureInit.srcRewriter = none := by rw [ugc_init]; exact ugc_switches.2.2.2.2.2.2.2
  obtain ⟨raw, hv⟩ := C03_bytes Gen.ugcPolicy ugc_plain.toC hreq input k hk htt b hb hpos (fun _ => hnr)
  rcases C03_browser _ hreq raw b.val hv with ⟨s, hcl, _, hs⟩ | ⟨hrel, _, _⟩
  · left
    refine ⟨s, hcl, ?_⟩
    rw [ugc_init] at hs
    rcases hs with ⟨checks, hget⟩ | hre
    · have hmem := Map.mem_of_get? _ _ _ hget
      exact List.all_eq_true.mp ugc_schemes _ hmem
    · rw [ugc_noTables.2.2.2.2] at hre; simp at hre
  · exact .inr hrel

/-- non-vacuity: the regenerated policy keeps documented markup and removes the rest -/
example : Gen.ugcPolicy.sanitizeCore b!"<a href=\"http://x/\" onclick=\"y\">t</a><script>1</script><p style=\"x\">p</p>" =
    b!"<a href=\"http://x/\" rel=\"nofollow\">t</a><p>p</p>" := by decide +kernel

end BM.Props
