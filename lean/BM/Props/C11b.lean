import BM.Props.C11
import BM.Props.Pins
import BM.Proofs.Prov
/-
  C11 composed: from the hardening block to the whole of `sanitizeAttrs`, and to the bytes.
  The later passes (forced crossorigin / sandbox) leave href, rel and target attributes alone, so what
  `C11_hardenLinks` proves of the block holds of what `sanitizeAttrs` returns; for policies without
  AllowUnsafe or allowed raw-text elements it holds of every a / area / base / link tag an HTML tokenizer
  reads from the output.
-/
namespace BM.Props
open BM BM.Html BM.Spec

theorem hardenLinks_other_keys (p : Policy) (el : Bytes) (l : List Attr) (k : Bytes)
    (hr : k ≠ b!"rel") (ht : k ≠ b!"target") :
    (p.hardenLinks el l).filter (·.key == k) = l.filter (·.key == k) :=
  hardenLinks_filter hr fun e => absurd e ht

/-- **C11 for the whole of `sanitizeAttrs`** (every policy, attribute list, a / area / base / link):
    if the returned attribute list carries an href, then under RequireNoFollowOnLinks (or its
    fully-qualified variant when some href has a host) there is a rel attribute and every rel
    attribute has the token nofollow; likewise noreferrer. -/
theorem C11_sanitizeAttrs (p : Policy) (el : Bytes) (attrs : List Attr) (aps : AttrRules) (out : List Attr)
    (h : p.sanitizeAttrs el attrs aps = some out) (hel : isHrefElement el = true)
    (hhref : (out.filter (·.key == b!"href")).isEmpty = false) :
    ((p.requireNoFollow || (hasHostHref out && p.requireNoFollowFullyQualifiedLinks)) = true →
        HasRel out ∧ AllRel b!"nofollow" out) ∧
    ((p.requireNoReferrer || (hasHostHref out && p.requireNoReferrerFullyQualifiedLinks)) = true →
        HasRel out ∧ AllRel b!"noreferrer" out) := by
  obtain ⟨m, hhr, hf⟩ := sanitizeAttrs_link_view h hel hhref
  have frel := hf b!"rel" (by decide) (by decide)
  unfold hasHostHref
  rw [hhr] at hhref ⊢
  cases hopt : anyLinkOption p
  · -- no option is on: nothing is required
    simp only [anyLinkOption, Bool.or_eq_false_iff] at hopt
    obtain ⟨⟨⟨⟨h1, h2⟩, h3⟩, h4⟩, _⟩ := hopt
    rw [h1, h2, h3, h4]
    simp
  · rw [hopt, if_pos rfl] at frel
    obtain ⟨hnf, hnr, _⟩ := C11_hardenLinks p el m hhref
    exact ⟨fun c => (hnf c).imp (hasRel_of_filter frel.symm) (allRel_of_filter frel.symm),
      fun c => (hnr c).imp (hasRel_of_filter frel.symm) (allRel_of_filter frel.symm)⟩

/-- **C11 (byte level, per input)**: every a / area / base / link start tag with an href that an
    HTML tokenizer reads from the returned bytes has, under the nofollow (noreferrer) options, a
    rel attribute, and each of its rel attributes has the token. -/
theorem C11_bytes_on (p : Policy) (input : Bytes) (hp : PlainOn p.ensureInit (tokenize input)) :
    ∀ k ∈ tokenize (p.sanitizeCore input), (k.tt = .start ∨ k.tt = .selfClosing) → isHrefElement k.data = true →
      (k.attrs.filter (·.key == b!"href")).isEmpty = false →
      ((p.ensureInit.requireNoFollow || (hasHostHref k.attrs && p.ensureInit.requireNoFollowFullyQualifiedLinks)) = true →
          HasRel k.attrs ∧ AllRel b!"nofollow" k.attrs) ∧
      ((p.ensureInit.requireNoReferrer || (hasHostHref k.attrs && p.ensureInit.requireNoReferrerFullyQualifiedLinks)) = true →
          HasRel k.attrs ∧ AllRel b!"noreferrer" k.attrs) := by
  intro k hk htt hel hhref
  have hne : k.attrs ≠ [] := by intro h; rw [h] at hhref; cases hhref
  obtain ⟨t, _, aps, _, _, hs⟩ := reread_open_tagOn p input hp k hk htt hne
  exact C11_sanitizeAttrs p.ensureInit k.data t.attrs aps k.attrs hs hel hhref

/-- **C11 (byte level)**: the same for every input, under a policy without AllowUnsafe and without a raw-text
    element on its allowlist. -/
theorem C11_bytes (p : Policy) (hp : PlainC p.ensureInit) (input : Bytes) :
    ∀ k ∈ tokenize (p.sanitizeCore input), (k.tt = .start ∨ k.tt = .selfClosing) → isHrefElement k.data = true →
      (k.attrs.filter (·.key == b!"href")).isEmpty = false →
      ((p.ensureInit.requireNoFollow || (hasHostHref k.attrs && p.ensureInit.requireNoFollowFullyQualifiedLinks)) = true →
          HasRel k.attrs ∧ AllRel b!"nofollow" k.attrs) ∧
      ((p.ensureInit.requireNoReferrer || (hasHostHref k.attrs && p.ensureInit.requireNoReferrerFullyQualifiedLinks)) = true →
          HasRel k.attrs ∧ AllRel b!"noreferrer" k.attrs) :=
  C11_bytes_on p input (hp.on _)

/-- the target attributes of a list, in order (a browser uses the first) -/
def targets (l : List Attr) : List Attr := l.filter (·.key == b!"target")

def FirstTargetBlank (l : List Attr) : Prop :=
  ∃ a, (targets l).head? = some a ∧ asciiEqualFold a.val b!"_blank" = true

/-- when the block is to set target `_blank` on an `a`, the first target attribute is fixed, or one is appended -/
theorem hardenCore_targets (nf nr : Bool) (l : List Attr) :
    targets (hardenCore true nf nr true l) =
      match targets l with
      | [] => [⟨b!"target", b!"_blank"⟩]
      | a :: as => (if asciiEqualFold a.val b!"_blank" then a else ⟨a.key, b!"_blank"⟩) :: as := by
  unfold targets
  -- the stages other than the two on target leave the target attributes alone
  have t1 := fixFirstTarget_targets (l.map (relFix nf nr))
  rw [filter_map_of_fixed (relFix_key nf nr) (fun a ha => relFix_other nf nr a (by rw [ha]; decide))] at t1
  have hrel : ∀ (c : Bool) (m : List Attr) (v : Bytes),
      (if c then m ++ [⟨b!"rel", v⟩] else m).filter (·.key == b!"target") = m.filter (·.key == b!"target") :=
    fun c m v => holds_ite (Q := fun x => x.filter (·.key == b!"target") = m.filter (·.key == b!"target")) (· ++ [_]) rfl
      fun _ _ => filter_append_ne (show (b!"rel" : Bytes) ≠ b!"target" by decide) m
  have hno : ∀ m, (addNoOpener m).filter (·.key == b!"target") = m.filter (·.key == b!"target") :=
    fun m => forceKey_filter (by decide) _ _ m
  -- whether one is appended depends on the target attributes of `l` only
  have h1 := any_key_filter l b!"target"
  have h2 : (l.any fun a => a.key == b!"target" && asciiEqualFold a.val b!"_blank") =
      (l.filter (·.key == b!"target")).any fun a => asciiEqualFold a.val b!"_blank" := by
    simp only [List.any_filter]
  unfold hardenCore
  simp only [h1, h2, Bool.true_and, Bool.or_true, ↓reduceIte, hno]
  generalize l.filter (·.key == b!"target") = T at t1 ⊢
  cases T with
  | nil =>
    simp only [List.any_nil, Bool.or_false, Bool.not_false, ↓reduceIte, List.filter_append, hrel, t1]
    rfl
  | cons a as =>
    simp only [List.any_cons, Bool.true_or, Bool.or_true, Bool.not_true, Bool.false_eq_true, ↓reduceIte, hrel, t1]

theorem hardenCore_targets_eq (nf nr : Bool) (l : List Attr) :
    targets (hardenCore true nf nr true l) = fixedTargets (targets l) := by
  rw [hardenCore_targets]
  cases targets l <;> rfl

/-- with AddTargetBlankToFullyQualifiedLinks and a host-qualified href, the hardening block leaves
    an `a` element whose first target attribute is `_blank` -/
theorem hardenLinks_target (p : Policy) (clean : List Attr)
    (hhref : (clean.filter (·.key == b!"href")).isEmpty = false)
    (htb : (hasHostHref clean && p.addTargetBlankToFullyQualifiedLinks) = true) :
    FirstTargetBlank (p.hardenLinks b!"a" clean) := by
  unfold FirstTargetBlank
  rw [hardenLinks_core, if_neg (by rw [hhref]; exact Bool.false_ne_true), htb,
    show ((b!"a" : Bytes) == b!"a") = true from rfl, hardenCore_targets_eq]
  obtain ⟨a, as, h, hb⟩ := fixedTargets_head (targets clean)
  exact ⟨a, by rw [h]; rfl, hb⟩

theorem hardenLinks_targets_kept (p : Policy) (el : Bytes) (clean : List Attr)
    (h : (el == b!"a" && (hasHostHref clean && p.addTargetBlankToFullyQualifiedLinks)) = false) :
    targets (p.hardenLinks el clean) = targets clean :=
  hardenLinks_filter (by decide) fun _ => h

/-- **C11, target and noopener clauses, for the whole of `sanitizeAttrs`** (element `a`, a returned
    attribute list that carries an href): with AddTargetBlankToFullyQualifiedLinks and a host-qualified
    href the first target attribute is `_blank`; and under any link option, if some target attribute
    of the result is `_blank`, there is a rel attribute and every rel attribute has the token noopener. -/
theorem C11_sanitizeAttrs_target (p : Policy) (attrs : List Attr) (aps : AttrRules) (out : List Attr)
    (h : p.sanitizeAttrs b!"a" attrs aps = some out)
    (hhref : (out.filter (·.key == b!"href")).isEmpty = false) :
    ((hasHostHref out && p.addTargetBlankToFullyQualifiedLinks) = true → FirstTargetBlank out) ∧
    ((p.requireNoFollow || p.requireNoFollowFullyQualifiedLinks || p.requireNoReferrer ||
        p.requireNoReferrerFullyQualifiedLinks || p.addTargetBlankToFullyQualifiedLinks) = true →
      ((targets out).any fun a => asciiEqualFold a.val b!"_blank") = true →
      HasRel out ∧ AllRel b!"noopener" out) := by
  obtain ⟨m, hhr, hf⟩ := sanitizeAttrs_link_view h (by decide) hhref
  have frel := hf b!"rel" (by decide) (by decide)
  have ftgt : targets out = targets _ := hf b!"target" (by decide) (by decide)
  have hext : hasHostHref out = hasHostHref m := by unfold hasHostHref; rw [hhr]
  unfold FirstTargetBlank
  rw [hhr] at hhref
  rw [hext, ftgt]
  constructor
  · intro htb
    have hopt : anyLinkOption p = true := by
      rw [Bool.and_eq_true] at htb
      simp only [anyLinkOption, htb.2, Bool.or_true]
    rw [hopt, if_pos rfl]
    exact hardenLinks_target p m hhref htb
  · intro hopt hblank
    rw [show anyLinkOption p = true from hopt, if_pos rfl] at frel hblank
    refine ((C11_hardenLinks p b!"a" m hhref).2.2 ?_).imp (hasRel_of_filter frel.symm) (allRel_of_filter frel.symm)
    cases hatb : hasHostHref m && p.addTargetBlankToFullyQualifiedLinks
    · -- the block left the targets alone: a `_blank` was there before
      rw [hardenLinks_targets_kept p _ m (by rw [hatb]; rfl), targets, List.any_filter] at hblank
      rw [hblank]
      rfl
    · exact Bool.or_eq_true_iff.mpr (.inr hatb)

/-- **C11, target and noopener clauses at byte level** (per input): on every `a` start tag with
    an href that an HTML tokenizer reads from the returned bytes -/
theorem C11_bytes_target_on (p : Policy) (input : Bytes) (hp : PlainOn p.ensureInit (tokenize input)) :
    ∀ k ∈ tokenize (p.sanitizeCore input), (k.tt = .start ∨ k.tt = .selfClosing) → k.data = b!"a" →
      (k.attrs.filter (·.key == b!"href")).isEmpty = false →
      ((hasHostHref k.attrs && p.ensureInit.addTargetBlankToFullyQualifiedLinks) = true → FirstTargetBlank k.attrs) ∧
      ((p.ensureInit.requireNoFollow || p.ensureInit.requireNoFollowFullyQualifiedLinks || p.ensureInit.requireNoReferrer ||
          p.ensureInit.requireNoReferrerFullyQualifiedLinks || p.ensureInit.addTargetBlankToFullyQualifiedLinks) = true →
        ((targets k.attrs).any fun a => asciiEqualFold a.val b!"_blank") = true →
        HasRel k.attrs ∧ AllRel b!"noopener" k.attrs) := by
  intro k hk htt hel hhref
  have hne : k.attrs ≠ [] := by intro h; rw [h] at hhref; cases hhref
  obtain ⟨t, _, aps, _, _, hs⟩ := reread_open_tagOn p input hp k hk htt hne
  rw [hel] at hs
  exact C11_sanitizeAttrs_target p.ensureInit t.attrs aps k.attrs hs hhref

/-- **C11, target and noopener clauses at byte level**: the same for every input, under a policy without
    AllowUnsafe and without a raw-text element on its allowlist -/
theorem C11_bytes_target (p : Policy) (hp : PlainC p.ensureInit) (input : Bytes) :
    ∀ k ∈ tokenize (p.sanitizeCore input), (k.tt = .start ∨ k.tt = .selfClosing) → k.data = b!"a" →
      (k.attrs.filter (·.key == b!"href")).isEmpty = false →
      ((hasHostHref k.attrs && p.ensureInit.addTargetBlankToFullyQualifiedLinks) = true → FirstTargetBlank k.attrs) ∧
      ((p.ensureInit.requireNoFollow || p.ensureInit.requireNoFollowFullyQualifiedLinks || p.ensureInit.requireNoReferrer ||
          p.ensureInit.requireNoReferrerFullyQualifiedLinks || p.ensureInit.addTargetBlankToFullyQualifiedLinks) = true →
        ((targets k.attrs).any fun a => asciiEqualFold a.val b!"_blank") = true →
        HasRel k.attrs ∧ AllRel b!"noopener" k.attrs) :=
  C11_bytes_target_on p input (hp.on _)

end BM.Props
