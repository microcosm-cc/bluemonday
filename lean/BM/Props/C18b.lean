import BM.Props.C18
import BM.Proofs.CssAbs
import BM.Proofs.CssDelete
import BM.Proofs.ViewTables
/-
  C18, the composition of the leaves by the handler bodies.  `Proofs/CssAbs` proves a static analysis of Go-lite
  handler bodies sound against the interpreter; here the kernel runs it on the handler table regenerated from
  css/handlers.go, with the regexps whose alphabet closure is proved in Props/C18 as clean leaves.  Result: for
  every property and every value, the default handler accepts the value only if it contains no backslash, angle
  bracket, at-sign, semicolon or brace (`C18_every_default_handler_clean`).  The handlers the analysis does not
  accept are listed by name (`css_unanalysed`: none), so a change that makes a handler opaque to the analysis
  breaks an obligation instead of silently shrinking the claim.
-/
namespace BM.Props
open BM BM.Golite

/-- the regexps of css/handlers.go that are whole-value recognisers over an alphabet without
    hostile bytes (decided on the regenerated syntax trees) -/
def cssCleanRes : List String :=
  (Gen.cssRegexes.map (·.1)).filter fun r =>
    match cssCtx.regex? r with
    | some re => Re.anchoredBoth re && Re.within (some inertQ) re
    | none => false

/-- the regexps, anchored or not, that consume nothing but characters of that alphabet: the ones used
    with `FindString` and `ReplaceAll` are among them -/
def cssInertRes : List String :=
  (Gen.cssRegexes.map (·.1)).filter fun r =>
    match cssCtx.regex? r with
    | some re => Re.within (some inertQ) re
    | none => false

/-- package-level values: `colorValues` is a list of clean strings -/
def cssGlobals : AEnv := fun n => if n == "colorValues" then .cleanL else .other

/-- the handler functions of `fns` that pass the analysis when calls to those of `fns` count as clean -/
def cssStep (fns : List String) : List String :=
  fns.filter fun f =>
    match cssCtx.func? f with
    | some fn => acheck { closedFns := fns, closedRes := cssCleanRes, inertRes := cssInertRes } 64 false false false false
        (cssGlobals.set fn.param (.covS .param)) [] fn.body
    | none => false

/-- `cssStep` repeated until the list stops shrinking, at most `n` times -/
def cssIter : Nat → List String → List String
  | 0, l => l
  | n + 1, l => let l' := cssStep l; if l'.length == l.length then l else cssIter n l'

/-- the handlers the analysis accepts: the greatest set of handler functions each of which passes
    the analysis when calls to the others in the set count as clean -/
def cssClosed : List String := cssIter 8 (Gen.cssFuncs.map (·.name))

/-- the context the handlers are analysed in: calls to `cssClosed` count as clean -/
def cssA : ACtx := { closedFns := cssClosed, closedRes := cssCleanRes, inertRes := cssInertRes }

/-- every element of the second list occurs in `all`.  Each is looked for from where the one before it
    was found (`cur`, a part of `all`) and from the start of `all` only when that fails: the table names its
    handlers nearly in the order in which css/handlers.go defines them -/
def allFound {α : Type} [BEq α] (all : List α) : List α → List α → Bool
  | _, [] => true
  | cur, a :: as =>
    match cur.dropWhile (· != a) with
    | b :: r => allFound all (b :: r) as
    | [] =>
      match all.dropWhile (· != a) with
      | b :: r => allFound all (b :: r) as
      | [] => false

theorem mem_of_dropWhile_ne {α : Type} [BEq α] [LawfulBEq α] {a b : α} {l r : List α}
    (h : l.dropWhile (· != a) = b :: r) : a ∈ l ∧ ∀ x ∈ b :: r, x ∈ l := by
  have hsub : ∀ x ∈ b :: r, x ∈ l := fun x hx => (h ▸ List.dropWhile_sublist _).subset hx
  have hb := List.head_dropWhile_not (· != a) (l := l) (by rw [h]; exact List.cons_ne_nil _ _)
  simp only [h, List.head_cons, bne_eq_false_iff_eq] at hb
  exact ⟨hb ▸ hsub b (List.mem_cons_self ..), hsub⟩

theorem allFound_sound {α : Type} [BEq α] [LawfulBEq α] (all : List α) :
    ∀ (as cur : List α), (∀ x ∈ cur, x ∈ all) → allFound all cur as = true → ∀ a ∈ as, a ∈ all := by
  intro as
  induction as with
  | nil => intro _ _ _ a ha; cases ha
  | cons a as ih =>
    intro cur hcur h
    have key : a ∈ all ∧ ∃ cur', (∀ x ∈ cur', x ∈ all) ∧ allFound all cur' as = true := by
      unfold allFound at h
      split at h
      · rename_i b r heq
        obtain ⟨ha, hsub⟩ := mem_of_dropWhile_ne heq
        exact ⟨hcur a ha, _, fun x hx => hcur x (hsub x hx), h⟩
      · split at h
        · rename_i b r heq
          exact ⟨(mem_of_dropWhile_ne heq).1, _, (mem_of_dropWhile_ne heq).2, h⟩
        · cases h
    obtain ⟨ha, cur', h1, h2⟩ := key
    intro x hx
    rcases List.mem_cons.mp hx with rfl | hx
    · exact ha
    · exact ih cur' h1 h2 x hx

/-- **The run of the analysis by the kernel over the regenerated handler functions**: the analysis accepts
    the body of every handler function when calls to all of them count as clean, and every handler the table names is one
    of the handler functions.  It ranges over the functions, not over their names: that the function found
    under a name is one of them is `func?_of_mem`, not an evaluation. -/
theorem css_kernel_run :
    Gen.cssFuncs.all (fun fn =>
      acheck { closedFns := Gen.cssFuncs.map (·.name), closedRes := cssCleanRes, inertRes := cssInertRes } 64
        false false false false (cssGlobals.set fn.param (.covS .param)) [] fn.body) = true ∧
    allFound (Gen.cssFuncs.map (·.name)) (Gen.cssFuncs.map (·.name)) (Gen.defaultStyleHandlers.map (·.2)) = true := by
  decide +kernel

theorem css_step_ok (f : String) (hf : f ∈ Gen.cssFuncs.map (·.name)) :
    (match cssCtx.func? f with
     | some fn => acheck { closedFns := Gen.cssFuncs.map (·.name), closedRes := cssCleanRes, inertRes := cssInertRes } 64
        false false false false (cssGlobals.set fn.param (.covS .param)) [] fn.body
     | none => false) = true := by
  obtain ⟨fn, hfn, hmem⟩ := func?_of_mem cssCtx f hf
  rw [hfn]
  exact List.all_eq_true.mp css_kernel_run.1 fn hmem

theorem cssClosed_eq : cssClosed = Gen.cssFuncs.map (·.name) := by
  have h : cssStep (Gen.cssFuncs.map (·.name)) = Gen.cssFuncs.map (·.name) := List.filter_eq_self.mpr css_step_ok
  show cssIter (7 + 1) _ = _
  simp only [cssIter, h, beq_self_eq_true, ite_true]

/- Trap: `rfl`, or any step that makes the unifier compare a term with `cssClosed`, unfolds it and runs the
   analysis in the elaborator; `simp only` rewrites without looking inside. -/
theorem cssA_closedFns : cssA.closedFns = Gen.cssFuncs.map (·.name) := by
  simp only [cssA, cssClosed_eq]

theorem css_bodies_ok : cssA.bodiesOK cssCtx cssGlobals 64 = true := by
  unfold cssA ACtx.bodiesOK
  rw [cssClosed_eq]
  exact List.all_eq_true.mpr css_step_ok

theorem css_unanalysed :
    (Gen.cssFuncs.map (·.name)).filter (fun f => !cssClosed.contains f) =
      [] := by
  rw [cssClosed_eq]
  exact List.filter_eq_nil_iff.mpr fun f hf h => by
    rw [List.contains_iff_mem.mpr hf] at h
    cases h

theorem inertQ_inert : InertAlphabet inertQ := by
  intro b hb
  rcases hostile_cases hb with hb | hb | hb | hb | hb | hb | hb <;> subst hb <;>
    exact inert_alphabets_exclude inertQ (by simp) _ (by decide)

theorem cssInertRes_within (r : String) (hr : r ∈ cssInertRes) (re : Re) (hre : cssCtx.regex? r = some re) :
    Re.within (some inertQ) re = true := by
  have hcond := (List.mem_filter.mp hr).2
  rw [hre] at hcond
  exact hcond

theorem cssCleanRes_closed (r : String) (hr : r ∈ cssCleanRes) (re : Re) (hre : cssCtx.regex? r = some re) :
    ClosedCss re inertQ := by
  have hcond := (List.mem_filter.mp hr).2
  rw [hre, Bool.and_eq_true] at hcond
  exact closedCss_of re inertQ hcond.1 hcond.2

theorem css_soundCtx : SoundCtx cssA cssCtx where
  lower := rfl
  res r hr re hre s hm := clean_of_inRanges inertQ inertQ_inert s (cssCleanRes_closed r hr re hre s hm)
  inertDel r hr re hre := clean_of_deleteAll inertQ inertQ_inert re (cssInertRes_within r hr re hre)
  inertFind r hr re hre := clean_findString inertQ inertQ_inert re (cssInertRes_within r hr re hre)

theorem colorValues_clean : (Gen.colorValues.all cleanB) = true := by decide +kernel

theorem css_globals_rel (tv : Targets) : Rel cssA tv cssGlobals cssCtx.globals :=
  (Rel.forget cssA tv []).cons "colorValues" .cleanL _
    ⟨Gen.colorValues, rfl, fun s hs => (cleanB_iff s).mp (List.all_eq_true.mp colorValues_clean s hs)⟩

/-- **C18, the handler bodies**: every handler function the analysis accepts returns true only on
    values without backslash, angle bracket, at-sign, semicolon or brace — for every value, whatever the fuel -/
theorem C18_handler_functions_clean (f : String) (hf : f ∈ cssA.closedFns) (k : Nat) (v : Bytes)
    (h : callFn cssCtx k f v = some true) : Clean v := by
  have hall := handlers_sound cssA cssCtx css_soundCtx cssGlobals css_globals_rel 64 css_bodies_ok k
  exact hall f hf k (Nat.le_refl _) v h

theorem defaultHandler_eq_true {prop v : Bytes} (h : defaultHandler prop v = true) :
    ∃ fn, Gen.defaultStyleHandlers.find? (·.1 == prop) = some (prop, fn) ∧
      callFn cssCtx (fuelFor v) fn v = some true := by
  unfold defaultHandler at h
  split at h
  · rename_i p fn hfind
    have hp : p = prop := by simpa using List.find?_some hfind
    subst hp
    refine ⟨fn, hfind, ?_⟩
    cases hc : Golite.run cssCtx fn v with
    | none => rw [hc] at h; cases h
    | some b => rw [hc] at h; exact hc.trans (congrArg some h)
  · cases h

/-- **C18, the table**: for every property of the default table whose handler is accepted — all of
    them (`css_table_unanalysed` lists the exceptions: none) — and every value, `css.GetDefaultHandler(prop)(value)`
    is true only if the value holds no backslash (so no CSS escape), no `<` or `>`, no `@`, and no `;`, `{`
    or `}` (so it cannot end the declaration or the block it is written into) -/
theorem C18_handlers_clean (prop v : Bytes) (fn : String)
    (htab : Gen.defaultStyleHandlers.find? (·.1 == prop) = some (prop, fn)) (hfn : fn ∈ cssA.closedFns)
    (h : defaultHandler prop v = true) : Clean v := by
  obtain ⟨fn', hfind, hcall⟩ := defaultHandler_eq_true h
  rw [htab] at hfind
  cases hfind
  exact C18_handler_functions_clean fn hfn _ v hcall

theorem css_table_unanalysed :
    (Gen.defaultStyleHandlers.filter fun e => !cssA.closedFns.contains e.2).map (·.1) =
      [] := by
  rw [cssA_closedFns, List.filter_eq_nil_iff.mpr fun e he h => by
    rw [List.contains_iff_mem.mpr
      (allFound_sound _ _ _ (fun _ hx => hx) css_kernel_run.2 e.2 (List.mem_map_of_mem he))] at h
    cases h]
  rfl

set_option maxRecDepth 1000000 in
/-- non-vacuity: `color` is in the table, its handler is accepted, and it accepts something -/
example : Gen.defaultStyleHandlers.find? (·.1 == b!"color") = some (b!"color", "ColorHandler") ∧
    "ColorHandler" ∈ cssA.closedFns ∧ defaultHandler b!"color" b!"red" = true ∧ defaultHandler b!"color" b!"r\\65 d" = false := by
  have hfn : "ColorHandler" ∈ Gen.cssFuncs.map (·.name) := by decide +kernel
  refine ⟨by decide +kernel, ?_, by decide +kernel, by decide +kernel⟩
  rw [cssA_closedFns]
  exact hfn

def CleanOnly (sp : StylePolicy) : Prop := ∀ v, okS sp v = true → Clean v

def cssUnanalysedProps : List Bytes :=
  (Gen.defaultStyleHandlers.filter fun e => !cssA.closedFns.contains e.2).map (·.1)

/-- **the matcher `AllowStyles(prop)` installs when it is given none** — the default handler of
    `prop`, or the reject-everything handler for a property outside the table — accepts clean values
    only, for every property outside `cssUnanalysedProps` (which is empty: `css_table_unanalysed`) -/
theorem default_matcher_cleanOnly (prop : Bytes) (hprop : prop ∉ cssUnanalysedProps) :
    CleanOnly (mkStylePolicy defaultHandler {} prop) := by
  intro v hv
  obtain ⟨fn, hfind, _⟩ := defaultHandler_eq_true (show defaultHandler prop v = true from hv)
  refine C18_handlers_clean prop v fn hfind (Decidable.by_contra fun hfn => hprop ?_) hv
  refine List.mem_map.mpr ⟨(prop, fn), List.mem_filter.mpr ⟨List.mem_of_find?_eq_some hfind, ?_⟩, rfl⟩
  rw [Bool.not_eq_true', ← Bool.not_eq_true, List.contains_iff_mem]
  exact hfn

/-- the matcher `AllowStyles(prop)` installs when it is given none accepts clean values only — every property -/
theorem default_matcher_cleanOnly_all (prop : Bytes) : CleanOnly (mkStylePolicy defaultHandler {} prop) :=
  default_matcher_cleanOnly prop (by rw [cssUnanalysedProps, css_table_unanalysed]; exact List.not_mem_nil)

/-- **C18, every default handler, every value**: `css.GetDefaultHandler(prop)(value)` — for each of the
    213 properties of the table and for every name outside it — is true only if the value holds no
    backslash (so no CSS escape), no `<` or `>`, no `@`, and no `;`, `{` or `}` -/
theorem C18_every_default_handler_clean (prop v : Bytes) (h : defaultHandler prop v = true) : Clean v :=
  default_matcher_cleanOnly_all prop v h

/-- **C10 + C18 through `sanitizeStyles`**: if every style rule that applies to element `el` — its own
    or the merged pattern rules, and the global ones — accepts clean values only (as the default
    matchers do), then every declaration that `sanitizeStyles` keeps has a value that, lower-cased and
    with its escapes decoded, contains no backslash, angle bracket, at-sign, semicolon or brace -/
theorem C18_kept_declarations_clean (p : Policy) (el : Bytes)
    (hE : ∀ prop sp, sp ∈ rulesOf (p.styleRulesFor el) prop → CleanOnly sp)
    (hG : ∀ prop sp, sp ∈ p.globalStyleRules prop → CleanOnly sp)
    (dec : Css.Decl) (h : p.declAccepted (p.styleRulesFor el) dec = true) :
    ∃ tv, removeUnicode (toLowerGo dec.value) = some tv ∧ Clean tv := by
  obtain ⟨tv, htv, hacc⟩ := (declAccepted_iff p (p.styleRulesFor el) dec).mp h
  refine ⟨tv, htv, ?_⟩
  rcases hacc with ⟨sp, hsp, hok⟩ | ⟨sp, hsp, hok⟩
  · exact hE _ sp hsp tv hok
  · exact hG _ sp hsp tv hok

end BM.Props
