import BM.Proofs.RegexLemmas
import BM.Gen.Shipped
/-
  C19: the exported attribute matchers are anchored, closed-alphabet recognisers.  For each of the eleven matchers,
  on the regular expression regenerated from helpers.go on every run (`Gen.pat…`, the `regexp/syntax` tree of the
  literal, case folding resolved): it is of the form `^ … $` (`anchoredBoth`), every character class lies inside
  the documented alphabet and there is no `.` (`within`, checked in its one-pass form `withinSorted`), hence **for
  every string** that `MatchString` accepts, each of its runes is in the documented alphabet (`search_alphabet`,
  proved once for all expressions in `Proofs/RegexLemmas.lean`).  The alphabets of the five `(?i)` keyword matchers
  contain U+017F (ſ) and U+212A (K): Go's case folding makes `(?i)s` and `(?i)k` match them — known finding
  `nonascii-casefold`.
-/
namespace BM.Props
open BM BM.Re

def asciiLetters : List (Rune × Rune) := [(65, 90), (97, 122)]
/-- letters plus the two non-ASCII runes Go's simple case folding adds to `s` and `k` -/
def foldedLetters : List (Rune × Rune) := [(65, 90), (97, 122), (0x17F, 0x17F), (0x212A, 0x212A)]
def digitsA : List (Rune × Rune) := [(48, 57)]
/-- `\s`, letters, digits, `_`, `-`, and everything outside ASCII (the regexp restricts the
    latter to \p{L} ∪ \p{N}) -/
def tokensA : List (Rune × Rune) := [(9, 10), (12, 13), (32, 32), (45, 45), (48, 57), (65, 90), (95, 95), (97, 122), (128, 0x10FFFF)]
/-- Paragraph: `\s`, letters, digits and `- _ ' , [ ] ! . / \ ( )`, plus non-ASCII -/
def paragraphA : List (Rune × Rune) :=
  [(9, 10), (12, 13), (32, 33), (39, 41), (44, 57), (65, 93), (95, 95), (97, 122), (128, 0x10FFFF)]
def numberA : List (Rune × Rune) := [(43, 43), (45, 46), (48, 57), (69, 69), (101, 101)]
def iso8601A : List (Rune × Rune) := [(32, 32), (43, 43), (45, 46), (48, 58), (84, 84), (90, 90)]
def listTypeA : List (Rune × Rune) := [(49, 49), (65, 90), (97, 122), (0x17F, 0x17F), (0x212A, 0x212A)]

/-- what is proved about one matcher -/
def Closed (r : Re) (A : List (Rune × Rune)) : Prop :=
  ∀ s : Bytes, Re.matchBytes r s = true → ∀ c ∈ decodeRunes s, inRanges c A = true

theorem closed_of {r : Re} {A : List (Rune × Rune)} (ha : anchoredBoth r = true) (hw : withinSorted A r = true) :
    Closed r A :=
  fun v => search_alphabet A r ha (within_of_sorted hw) (decodeRunes v)

theorem CellAlign_closed : Closed Gen.patCellAlign foldedLetters := closed_of (by decide +kernel) (by decide +kernel)
theorem CellVerticalAlign_closed : Closed Gen.patCellVerticalAlign foldedLetters := closed_of (by decide +kernel) (by decide +kernel)
theorem Direction_closed : Closed Gen.patDirection foldedLetters := closed_of (by decide +kernel) (by decide +kernel)
theorem ImageAlign_closed : Closed Gen.patImageAlign foldedLetters := closed_of (by decide +kernel) (by decide +kernel)
theorem ListType_closed : Closed Gen.patListType listTypeA := closed_of (by decide +kernel) (by decide +kernel)
theorem Integer_closed : Closed Gen.patInteger digitsA := closed_of (by decide +kernel) (by decide +kernel)
theorem NumberOrPercent_closed : Closed Gen.patNumberOrPercent [(37, 37), (48, 57)] := closed_of (by decide +kernel) (by decide +kernel)
theorem Number_closed : Closed Gen.patNumber numberA := closed_of (by decide +kernel) (by decide +kernel)
theorem ISO8601_closed : Closed Gen.patISO8601 iso8601A := closed_of (by decide +kernel) (by decide +kernel)
theorem SpaceSeparatedTokens_closed : Closed Gen.patSpaceSeparatedTokens tokensA := closed_of (by decide +kernel) (by decide +kernel)
theorem Paragraph_closed : Closed Gen.patParagraph paragraphA := closed_of (by decide +kernel) (by decide +kernel)

/-- none of the documented alphabets contains `< > " = \`` or `&`, nor any of the control characters
    U+0000, U+0001, U+0008, U+000B, U+000E, U+001B, U+001F, U+007F (a sample: the statement does not
    range over every control character; the lowest entry of an alphabet outside `\s` is U+0020) -/
theorem alphabets_exclude_html :
    ∀ A ∈ [foldedLetters, digitsA, tokensA, paragraphA, numberA, iso8601A, listTypeA, [(37, 37), (48, 57)]],
      ∀ c ∈ [60, 62, 34, 61, 96, 38, 0, 1, 8, 11, 14, 27, 31, 127], inRanges c A = false := by decide +kernel

/-- the documented examples are accepted (by the regenerated expressions) -/
theorem examples_accepted :
    Re.matchBytes Gen.patCellAlign b!"center" = true ∧ Re.matchBytes Gen.patCellAlign b!"Justify" = true ∧
    Re.matchBytes Gen.patCellVerticalAlign b!"baseline" = true ∧ Re.matchBytes Gen.patDirection b!"rtl" = true ∧
    Re.matchBytes Gen.patImageAlign b!"absmiddle" = true ∧ Re.matchBytes Gen.patInteger b!"42" = true ∧
    Re.matchBytes Gen.patISO8601 b!"1997-07-16T19:20:30.45+01:00" = true ∧
    Re.matchBytes Gen.patISO8601 b!"1997" = true ∧ Re.matchBytes Gen.patListType b!"circle" = true ∧
    Re.matchBytes Gen.patListType b!"A" = true ∧ Re.matchBytes Gen.patSpaceSeparatedTokens b!"a b-c_d" = true ∧
    Re.matchBytes Gen.patNumber b!"-1.5e+3" = true ∧ Re.matchBytes Gen.patNumberOrPercent b!"50%" = true ∧
    Re.matchBytes Gen.patParagraph b!"Hello, world! (it's [ok])" = true := by decide +kernel

/-- and near misses are rejected (tests on literals, not the unbounded claim) -/
example : Re.matchBytes Gen.patISO8601 b!"2000-01-01T00:00:00<1" = false ∧
          Re.matchBytes Gen.patInteger b!"1<" = false ∧ Re.matchBytes Gen.patCellAlign b!"center\n" = false := by decide +kernel

theorem exported_anchored : ∀ nr ∈ Gen.exportedMatchers, Re.anchoredBoth nr.2 = true := by decide +kernel

/-- **C19, "matches against the whole value"**: for each of the exported matchers (regenerated from
    helpers.go), `MatchString` is true exactly when the expression matches, in the declarative
    relation `Re.Matches`, from the first rune of the value to its end — never a part of it -/
theorem C19_whole_value : ∀ nr ∈ Gen.exportedMatchers, ∀ v : Bytes,
    Re.matchBytes nr.2 v = true ↔ ∃ p', Re.Matches nr.2 .none (decodeRunes v) p' [] := by
  intro nr hnr v
  exact Re.search_anchored nr.2 (exported_anchored nr hnr) (decodeRunes v)

end BM.Props
