import BM.Props.Pins
import BM.Proofs.Prov
/-
  C05: script and style never survive unless AllowUnsafe(true).

  Proved for every policy with AllowUnsafe off — whatever it allows by name or by pattern,
  whatever its skip set — and every token sequence (event level):
  * no write is the serialisation of a tag named script or style;
  * the text token that follows a script/style start tag *or self-closing tag* (the raw text
    the tokenizer produces for the element's body) writes nothing.
  Byte level (`C05_bytesC_on` and its corollaries): no tag re-read from the returned bytes is named script or style.
-/
namespace BM.Props
open BM BM.Html BM.Spec

/-- the writes C05 allows: escaped text, the added space, a comment, a tag other than script and style -/
inductive WriteKind5 (p : Policy) : Bytes → Prop where
  | text (d : Bytes) : WriteKind5 p (escape d)
  | space : WriteKind5 p [32]
  | comment (d : Bytes) : WriteKind5 p (Token.render ⟨.comment, d, []⟩)
  | tag (t : Token) : isTag t = true → isScriptOrStyle t.data = false → WriteKind5 p t.render

/-- **C05 (tags)**: with AllowUnsafe off no write is a script or style tag, for any policy -/
theorem C05_no_script_style_tag (p : Policy) (hu : p.allowUnsafe = false) (input : Bytes) :
    ∀ w ∈ (p.run {} (tokenize input)).1, WriteKind5 p w.data := by
  refine run_writes_of_emit (WriteKind5 p) (fun he w hmem => ?_) _ _
  rcases emit_write hu he w hmem with ⟨d, h⟩ | h | ⟨d, h, _⟩ | ⟨k, h, hk, _, hss⟩ <;> rw [h]
  · exact .text d
  · exact .space
  · exact .comment d
  · exact .tag k hk hss

theorem script_open_step (p : Policy) (hu : p.allowUnsafe = false) (st : LoopState) (t : Token)
    (htt : t.tt = .start ∨ t.tt = .selfClosing) (hs : isScriptOrStyle t.data = true) :
    p.step st t = some ({ st with mostRecentlyStartedToken := t.data }, []) := by
  rcases htt with h | h
  · simp [Policy.step, h, Policy.stepStart, hs, hu]
  · simp [Policy.step, h, Policy.stepSelfClosing, hs, hu]

theorem script_body_step (p : Policy) (hu : p.allowUnsafe = false) (st : LoopState) (t : Token)
    (htt : t.tt = .text) (hs : isScriptOrStyle st.mostRecentlyStartedToken = true) :
    p.step st t = some (st, []) := by
  simp [Policy.step, htt, Policy.stepText, hs, hu]

/-- **C05 (bodies)**: a script/style tag (start or self-closing) and the text token after it
    contribute nothing to the output, for any policy with AllowUnsafe off -/
theorem C05_body_hidden (p : Policy) (hu : p.allowUnsafe = false) (st : LoopState) (t1 t2 : Token)
    (rest : List Token) (h1 : t1.tt = .start ∨ t1.tt = .selfClosing)
    (hs : isScriptOrStyle t1.data = true) (h2 : t2.tt = .text) :
    p.run st (t1 :: t2 :: rest) = p.run { st with mostRecentlyStartedToken := t1.data } rest := by
  have e1 := script_open_step p hu st t1 h1 hs
  have e2 := script_body_step p hu { st with mostRecentlyStartedToken := t1.data } t2 h2 (by simpa using hs)
  simp [Policy.run, e1, e2]

/-- non-vacuity, the self-closing form `<script/>` included -/
example :
    let p : Policy := { initialized := true, elsAndAttrs := [(b!"script", []), (b!"b", [])],
                        setOfElementsAllowedWithoutAttrs := [b!"b", b!"script"] }
    p.sanitizeCore b!"<script/>ZQ1</script><b>k</b><SCRIPT>ZQ2</SCRIPT>" = b!"<b>k</b>" := by decide

/-- (per-input form)  **C05 (byte level), comments allowed or not**: for every policy without AllowUnsafe and every
    input none of whose raw-text tags names an element the policy allows, no tag an HTML tokenizer finds in the
    returned bytes is named script or style -/
theorem C05_bytesC_on (p : Policy) (input : Bytes) (hp : PlainOn p.ensureInit (tokenize input)) :
    ∀ k ∈ tokenize (p.sanitizeCore input), isTag k = true → isScriptOrStyle k.data = false := by
  intro k hk htag
  rcases reread_tokenOn p input hp k hk with h | ⟨h, _⟩ | ⟨_, _, h⟩
  · rw [isTag_iff, h] at htag; simp at htag
  · rw [isTag_iff, h] at htag; simp at htag
  · exact h

/-- **C05 (byte level), comments allowed or not**: the same for every policy without AllowUnsafe
    and without a raw-text element on its allowlist, whether or not it allows comments -/
theorem C05_bytesC (p : Policy) (hp : PlainC p.ensureInit) (input : Bytes) :
    ∀ k ∈ tokenize (p.sanitizeCore input), isTag k = true → isScriptOrStyle k.data = false :=
  C05_bytesC_on p input (hp.on _)

/-- **C05 (byte level)**: for a plain policy — even one that names script or style, or matches
    them with a pattern — no token an HTML tokenizer finds in the returned bytes is a start,
    end or self-closing tag named script or style. -/
theorem C05_bytes (p : Policy) (hp : Plain p.ensureInit) (input : Bytes) :
    ∀ k ∈ tokenize (p.sanitizeCore input), isTag k = true → isScriptOrStyle k.data = false :=
  C05_bytesC p hp.toC input

end BM.Props
