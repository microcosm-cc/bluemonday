import BM.Props.C05
import BM.Props.C14
import BM.Proofs.TextOf
/-
  C06: text is preserved exactly and always emitted escaped.  Event level (every token sequence): outside skipped
  content and script/style bodies a text token writes exactly `escape data`, inside them nothing, and no other
  token writes text.  Byte level (`C06_bytes_on` and its corollaries, by the round trip of `Proofs/RtDoc`,
  `Proofs/RtComment`): on inputs free of script/style and skip-content tags the text a tokenizer reads from the
  output is the text it reads from the input, up to one space per removed tag when AddSpaceWhenStrippingTag is set.
-/
namespace BM.Props
open BM BM.Html BM.Spec

theorem text_written_once (p : Policy) (st : LoopState) (t : Token) (htt : t.tt = .text)
    (hskip : st.skipElementContent = false) (hrec : isScriptOrStyle st.mostRecentlyStartedToken = false) :
    p.step st t = some (st, [⟨escape t.data⟩]) := by
  simp [Policy.step, htt, Policy.stepText, hskip, hrec, Token.render]

theorem text_hidden_when_skipping (p : Policy) (st : LoopState) (t : Token) (htt : t.tt = .text)
    (hskip : st.skipElementContent = true) : p.step st t = some (st, []) := by
  simp [Policy.step, htt, Policy.stepText, hskip]

theorem text_hidden_in_script (p : Policy) (hu : p.allowUnsafe = false) (st : LoopState) (t : Token)
    (htt : t.tt = .text) (hrec : isScriptOrStyle st.mostRecentlyStartedToken = true) :
    p.step st t = some (st, []) :=
  script_body_step p hu st t htt hrec

theorem text_keeps_state (p : Policy) (st : LoopState) (t : Token) (htt : t.tt = .text) :
    ∃ ws, p.step st t = some (st, ws) := by
  simp [Policy.step, htt]

/-- with AddSpaceWhenStrippingTag and AllowUnsafe off, the only writes that carry text are escaped texts:
    every other write starts with `<` (a tag or a comment) -/
theorem non_text_writes_are_markup (p : Policy) (hs : p.addSpaces = false) (hu : p.allowUnsafe = false)
    (st : LoopState) (t : Token) (ws : List Write) (he : Emit p st t ws) (hnt : t.tt ≠ .text) :
    ∀ w ∈ ws, w.data.head? = some 60 := by
  cases he with
  | nothing => simp
  | space h => simp [hs] at h
  | comment htt _ => intro w hw; simp at hw; subst hw; simp [Token.render, htt]
  | openTag _ _ htt _ _ _ _ _ =>
    intro w hw; simp at hw; subst hw
    rcases htt with h | h <;> simp [Token.render, h]
  | closeTag htt _ _ => intro w hw; simp at hw; subst hw; simp [Token.render, htt]
  | text htt _ _ => exact absurd htt hnt
  | rawText _ h _ => simp [hu] at h

theorem fromTokenC_kind {p : Policy} {t k : Token} (h : FromTokenC p t k) (ht : t.tt ≠ .text) :
    (k.tt = .text ∧ k.data = [32] ∧ p.addSpaces = true) ∨ k.tt = t.tt := by
  rcases h with ⟨_, ⟨hk, ⟨hd, hsp⟩ | ⟨htt, _⟩⟩ | ⟨hk, _⟩⟩ | ⟨hk, htc, _⟩
  · exact .inl ⟨hk, hd, hsp⟩
  · exact absurd htt ht
  · exact .inr hk
  · exact .inr (hk.trans htc.symm)

theorem textOf_eq_nil {ts : List Token} (h : ∀ k ∈ ts, k.tt ≠ .text) : textOf ts = [] := by
  unfold textOf
  rw [List.filter_eq_nil_iff.mpr fun k hk => by simpa [tt_beq] using h k hk]
  rfl

theorem quiet_step_of_text {p : Policy} {st : LoopState} {t : Token} (htt : t.tt = .text) (hq : Quiet st)
    {st' : LoopState} {ws : List Write} (h : p.step st t = some (st', ws)) :
    ws.map (·.data) = [(⟨.text, t.data, []⟩ : Token)].map Token.render ∧ FromTokenC p t ⟨.text, t.data, []⟩ := by
  rw [text_written_once p st t htt hq.1 hq.2] at h
  cases h
  exact ⟨by simp [Token.render], .inl ⟨trivial, .inl ⟨rfl, .inr ⟨htt, rfl⟩⟩⟩⟩

theorem quiet_step_text {p : Policy} (hu : p.allowUnsafe = false) (hs : p.addSpaces = false) {st : LoopState}
    {t : Token} (hraw : isRawTagName t.data = true → allowsElement p t.data = false)
    (hwf : TokWF t) (hq : Quiet st) {st' : LoopState} {ws : List Write} (h : p.step st t = some (st', ws)) :
    ∃ toks : List Token, ws.map (·.data) = toks.map Token.render ∧ (∀ k ∈ toks, ∃ t, FromTokenC p t k) ∧
      textOf toks = textOf [t] := by
  by_cases htt : t.tt = .text
  · obtain ⟨hr, hcov⟩ := quiet_step_of_text htt hq h
    exact ⟨_, hr, fun k hk => ⟨t, List.mem_singleton.mp hk ▸ hcov⟩, by rw [textOf_text rfl, textOf_text htt]⟩
  · obtain ⟨toks, hr, hf⟩ := emit_toksOn hu hraw hwf (step_emit p st t st' ws h)
    refine ⟨toks, hr, fun k hk => ⟨t, hf k hk⟩, ?_⟩
    rw [textOf_eq_nil (ts := [t]) (by simpa using htt), textOf_eq_nil]
    intro k hk hkt
    rcases fromTokenC_kind (hf k hk) htt with ⟨_, _, hsp⟩ | hkt'
    · rw [hs] at hsp; cases hsp
    · exact htt (hkt'.symm.trans hkt)

/-- the induction shared by `run_textOn` (`μ` = `textOf`) and `run_sp` (`μ` = `spMeasure`): `μ` is any additive
    measure of token lists that each iteration from a quiet state preserves -/
theorem quiet_run {α : Type} (μ : List Token → α) (op : α → α → α) (hμ : ∀ a b, μ (a ++ b) = op (μ a) (μ b))
    {p : Policy} (Q : Token → Prop) (ts : List Token) (hwf : ∀ t ∈ ts, TokWF t) (hc : ∀ t ∈ ts, CalmTok p t)
    (hstep : ∀ t ∈ ts, ∀ {st st' : LoopState} {ws : List Write}, Quiet st → p.step st t = some (st', ws) →
      ∃ toks : List Token, ws.map (·.data) = toks.map Token.render ∧ (∀ k ∈ toks, Q k) ∧ μ toks = μ [t]) :
    ∀ st, Quiet st → StackInv st → ∃ toks : List Token,
      (p.run st ts).1.map (·.data) = toks.map Token.render ∧ (∀ k ∈ toks, Q k) ∧ μ toks = μ ts := by
  intro st hq hi
  obtain ⟨ws, hr, toks, h1, h2, h3⟩ := run_steps (fun st => Quiet st ∧ StackInv st)
    (fun t ws => ∃ toks : List Token, ws.map (·.data) = toks.map Token.render ∧ (∀ k ∈ toks, Q k) ∧ μ toks = μ [t])
    (fun ts ws => ∃ toks : List Token, ws.map (·.data) = toks.map Token.render ∧ (∀ k ∈ toks, Q k) ∧ μ toks = μ ts)
    ⟨[], rfl, nofun, rfl⟩
    (fun ⟨k1, hr1, hq1, hm1⟩ ⟨k2, hr2, hq2, hm2⟩ => ⟨k1 ++ k2, by simp [hr1, hr2],
      fun k hk => (List.mem_append.mp hk).elim (hq1 k) (hq2 k), by rw [hμ, hm1, hm2, ← hμ]; rfl⟩)
    ts (fun t ht st ⟨hq, hi⟩ =>
      let ⟨st', ws, hs, hi'⟩ := step_safe p st t (nameOK_of_tokWF (hwf t ht)) hi
      ⟨st', ws, hs, ⟨step_quiet p st t st' ws hs hq (hc t ht), hi'⟩, hstep t ht hq hs⟩) st ⟨hq, hi⟩
  exact ⟨toks, by rw [hr]; exact h1, h2, h3⟩

theorem run_textOn {p : Policy} (hu : p.allowUnsafe = false) (hs : p.addSpaces = false) (ts : List Token)
    (hraw : ∀ t ∈ ts, isRawTagName t.data = true → allowsElement p t.data = false)
    (hwf : ∀ t ∈ ts, TokWF t) (hc : ∀ t ∈ ts, CalmTok p t) :
    ∀ st, Quiet st → StackInv st → ∃ toks : List Token,
      (p.run st ts).1.map (·.data) = toks.map Token.render ∧ (∀ k ∈ toks, ∃ t, FromTokenC p t k) ∧
      textOf toks = textOf ts :=
  quiet_run textOf (· ++ ·) textOf_append (fun k => ∃ t, FromTokenC p t k) ts hwf hc
    fun t ht _ _ _ hq h => quiet_step_text hu hs (hraw t ht) (hwf t ht) hq h

theorem run_text {p : Policy} (hp : Plain p) (hs : p.addSpaces = false) (ts : List Token)
    (hwf : ∀ t ∈ ts, TokWF t) (hc : ∀ t ∈ ts, CalmTok p t) :
    ∀ st, Quiet st → StackInv st → ∃ toks : List Token,
      (p.run st ts).1.map (·.data) = toks.map Token.render ∧ (∀ k ∈ toks, SegOK k) ∧
      textOf toks = textOf ts := by
  intro st hq hi
  obtain ⟨toks, hr, hcov, ht⟩ := run_textOn hp.noUnsafe hs ts (fun t _ => hp.noRaw t.data) hwf hc st hq hi
  exact ⟨toks, hr, fun k hk => let ⟨_, h⟩ := hcov k hk; (h.plain hp.noComments).1, ht⟩

/-- (per-input form)  **C06 (byte level), comments allowed or not**: for every policy and every input such
    that neither AllowUnsafe nor AddSpaceWhenStrippingTag is set, no raw-text tag of the input names an allowed
    element and no tag of the input is script/style or in the skip-content set, the text an HTML tokenizer reads
    from the output equals the text it reads from the input -/
theorem C06_bytes_on (p : Policy) (input : Bytes) (hp : PlainOn p.ensureInit (tokenize input))
    (hs : p.ensureInit.addSpaces = false) (hc : ∀ t ∈ tokenize input, CalmTok p.ensureInit t) :
    textOf (tokenize (p.sanitizeCore input)) = textOf (tokenize input) := by
  obtain ⟨toks, hr, hcov, htext⟩ :=
    run_textOn hp.noUnsafe hs (tokenize input) hp.noRaw (tokenize_wf input) hc {} ⟨rfl, rfl⟩ stackInv_init
  rw [Policy.sanitizeCore, tokenize_of_writes hr fun k hk => let ⟨_, h⟩ := hcov k hk; h.segOKC, textOf_coalesce, textOf_map_reread]
  exact htext

/-- **C06 (byte level), comments allowed or not**: for every policy without AllowUnsafe, without a
    raw-text element on its allowlist and without AddSpaceWhenStrippingTag — whether or not it
    allows comments — and an input whose tags are neither script/style nor in the skip-content
    set, the text an HTML tokenizer reads from the output equals the text it reads from the input -/
theorem C06_bytesC (p : Policy) (hp : PlainC p.ensureInit) (hs : p.ensureInit.addSpaces = false) (input : Bytes)
    (hc : ∀ t ∈ tokenize input, CalmTok p.ensureInit t) :
    textOf (tokenize (p.sanitizeCore input)) = textOf (tokenize input) :=
  C06_bytes_on p input (hp.on _) hs hc

/-- **C06 (byte level)**: for a plain policy (no AllowUnsafe, no comments, no raw-text element
    allowed) without AddSpaceWhenStrippingTag, and an input whose tags are neither script/style
    nor in the policy's skip-content set, the text an HTML tokenizer reads from the output
    equals the text it reads from the input — nothing lost, duplicated, altered or turned
    into markup. -/
theorem C06_bytes (p : Policy) (hp : Plain p.ensureInit) (hs : p.ensureInit.addSpaces = false) (input : Bytes)
    (hc : ∀ t ∈ tokenize input, CalmTok p.ensureInit t) :
    textOf (tokenize (p.sanitizeCore input)) = textOf (tokenize input) :=
  C06_bytes_on p input (hp.toC.on _) hs hc

theorem tagCount_cons (t : Token) (ts : List Token) :
    tagCount (t :: ts) = (if isTag t then 1 else 0) + tagCount ts := by
  unfold tagCount
  by_cases h : isTag t = true <;> simp [h, Nat.add_comm]

theorem tagCount_append (a b : List Token) : tagCount (a ++ b) = tagCount a + tagCount b := by
  simp [tagCount, List.filter_append]

theorem tagCount_coalesce : ∀ (ts : List Token) (d : Bytes), tagCount (coalesce d ts) = tagCount ts := fun ts d => by
  unfold tagCount
  rw [filter_coalesce isTag fun k h => by unfold isTag; rw [h]; rfl]

theorem tagCount_map_reread (ts : List Token) : tagCount (ts.map reread) = tagCount ts := by
  unfold tagCount
  rw [filter_map_reread isTag fun k h => by unfold isTag; rw [h]; rfl]

/-- the measure of C06's added-space clause: text length plus number of tags (a removed tag leaves one byte of
    text in its place), and the text with its spaces removed -/
def spMeasure (ts : List Token) : Nat × Bytes := ((textOf ts).length + tagCount ts, noSpaces (textOf ts))

theorem spMeasure_append (a b : List Token) :
    spMeasure (a ++ b) = ((spMeasure a).1 + (spMeasure b).1, (spMeasure a).2 ++ (spMeasure b).2) := by
  simp only [spMeasure, textOf_append, tagCount_append, noSpaces_append, List.length_append, Prod.mk.injEq, and_true]
  omega

theorem spMeasure_one (k : Token) : spMeasure [k] =
    if k.tt = .text then (k.data.length, noSpaces k.data) else if isTag k = true then (1, []) else (0, []) := by
  unfold spMeasure
  rw [textOf_cons, tagCount_cons, textOf_nil, List.append_nil]
  unfold isTag
  cases k.tt <;> rfl

theorem quiet_tag_writes_one {p : Policy} (hs : p.addSpaces = true) {st st' : LoopState} {t : Token} {ws : List Write}
    (h : p.step st t = some (st', ws)) (hq : Quiet st) (hc : CalmTok p t) (htag : isTag t = true) :
    ∃ w, ws = [w] := by
  have hsk := (step_quiet p st t st' ws h hq hc).1
  rcases (step_tag h htag).2 with ⟨hid, _⟩ | ⟨_, rfl | ⟨_, _, _, _, _, _, _, rfl⟩ | ⟨_, _, rfl⟩⟩
  · rw [hiddenEl, (hc htag).1] at hid; cases hid
  · exact ⟨⟨[32]⟩, by rw [Policy.space, hs]; rfl⟩
  · exact ⟨_, emitUnlessSkipping_of_not_skipping hsk _⟩
  · exact ⟨_, emitUnlessSkipping_of_not_skipping hsk _⟩

theorem quiet_step_sp {p : Policy} (hu : p.allowUnsafe = false) (hs : p.addSpaces = true) {st : LoopState}
    {t : Token} (hraw : isRawTagName t.data = true → allowsElement p t.data = false)
    (hwf : TokWF t) (hq : Quiet st) (hc : CalmTok p t) {st' : LoopState} {ws : List Write}
    (h : p.step st t = some (st', ws)) :
    ∃ toks : List Token, ws.map (·.data) = toks.map Token.render ∧ (∀ k ∈ toks, ∃ t, FromTokenC p t k) ∧
      spMeasure toks = spMeasure [t] := by
  by_cases htt : t.tt = .text
  · obtain ⟨hr, hcov⟩ := quiet_step_of_text htt hq h
    exact ⟨_, hr, fun k hk => ⟨t, List.mem_singleton.mp hk ▸ hcov⟩, by rw [spMeasure_one, spMeasure_one]; simp [htt]⟩
  by_cases htag : isTag t = true
  · obtain ⟨toks, hr, hf⟩ := emit_toksOn hu hraw hwf (step_emit p st t st' ws h)
    obtain ⟨w, rfl⟩ := quiet_tag_writes_one hs h hq hc htag
    -- one write, hence one token
    obtain ⟨k, rfl⟩ : ∃ k, toks = [k] := by
      cases toks with
      | nil => simp at hr
      | cons k rest => cases rest with
        | nil => exact ⟨k, rfl⟩
        | cons _ _ => simp at hr
    refine ⟨[k], hr, fun x hx => ⟨t, hf x hx⟩, ?_⟩
    rw [spMeasure_one, spMeasure_one, if_neg htt, if_pos htag]
    rcases fromTokenC_kind (hf k (by simp)) htt with ⟨hkt, hkd, _⟩ | hkt
    · rw [if_pos hkt, hkd]; rfl
    · have : isTag k = true := by unfold isTag at htag ⊢; rw [hkt]; exact htag
      rw [if_neg (hkt ▸ htt), if_pos this]
  · -- a comment or a doctype
    cases hc' : t.tt with
    | comment =>
      rw [step_of_comment hc'] at h
      cases h
      by_cases hac : p.allowComments = true
      · exact ⟨[t], by simp [hac], fun k hk => ⟨t, by rw [List.mem_singleton.mp hk]; exact .inr ⟨hc', hc', rfl, hac⟩⟩, rfl⟩
      · refine ⟨[], by simp [hac], by simp, ?_⟩
        rw [spMeasure_one, if_neg htt, if_neg htag]; rfl
    | doctype =>
      rw [step_of_doctype hc'] at h
      cases h
      refine ⟨[], rfl, by simp, ?_⟩
      rw [spMeasure_one, if_neg htt, if_neg htag]; rfl
    | text => exact absurd hc' htt
    | start => exact absurd ((isTag_iff t).mpr (.inl hc')) htag
    | end_ => exact absurd ((isTag_iff t).mpr (.inr (.inl hc'))) htag
    | selfClosing => exact absurd ((isTag_iff t).mpr (.inr (.inr hc'))) htag

theorem run_sp {p : Policy} (hu : p.allowUnsafe = false) (hs : p.addSpaces = true) (ts : List Token)
    (hraw : ∀ t ∈ ts, isRawTagName t.data = true → allowsElement p t.data = false)
    (hwf : ∀ t ∈ ts, TokWF t) (hc : ∀ t ∈ ts, CalmTok p t) :
    ∀ st, Quiet st → StackInv st → ∃ toks : List Token,
      (p.run st ts).1.map (·.data) = toks.map Token.render ∧ (∀ k ∈ toks, ∃ t, FromTokenC p t k) ∧
      spMeasure toks = spMeasure ts :=
  quiet_run spMeasure (fun a b => (a.1 + b.1, a.2 ++ b.2)) spMeasure_append (fun k => ∃ t, FromTokenC p t k) ts hwf hc
    fun t ht _ _ _ hq h => quiet_step_sp hu hs (hraw t ht) (hwf t ht) hq (hc t ht) h

theorem run_text_spOn {p : Policy} (hu : p.allowUnsafe = false) (hs : p.addSpaces = true) (ts : List Token)
    (hraw : ∀ t ∈ ts, isRawTagName t.data = true → allowsElement p t.data = false)
    (hwf : ∀ t ∈ ts, TokWF t) (hc : ∀ t ∈ ts, CalmTok p t) :
    ∀ st, Quiet st → StackInv st → ∃ toks : List Token,
      (p.run st ts).1.map (·.data) = toks.map Token.render ∧ (∀ k ∈ toks, SegOKC k) ∧
      (textOf toks).length + tagCount toks = (textOf ts).length + tagCount ts ∧
      noSpaces (textOf toks) = noSpaces (textOf ts) := by
  intro st hq hi
  obtain ⟨toks, hr, hcov, hm⟩ := run_sp hu hs ts hraw hwf hc st hq hi
  exact ⟨toks, hr, fun k hk => let ⟨_, h⟩ := hcov k hk; h.segOKC, (Prod.ext_iff.mp hm).1, (Prod.ext_iff.mp hm).2⟩

theorem run_text_sp {p : Policy} (hp : Plain p) (hs : p.addSpaces = true) (ts : List Token)
    (hwf : ∀ t ∈ ts, TokWF t) (hc : ∀ t ∈ ts, CalmTok p t) :
    ∀ st, Quiet st → StackInv st → ∃ toks : List Token,
      (p.run st ts).1.map (·.data) = toks.map Token.render ∧ (∀ k ∈ toks, SegOK k) ∧
      (textOf toks).length + tagCount toks = (textOf ts).length + tagCount ts ∧
      noSpaces (textOf toks) = noSpaces (textOf ts) := by
  intro st hq hi
  obtain ⟨toks, hr, hcov, hm⟩ := run_sp hp.noUnsafe hs ts (fun t _ => hp.noRaw t.data) hwf hc st hq hi
  exact ⟨toks, hr, fun k hk => let ⟨_, h⟩ := hcov k hk; (h.plain hp.noComments).1, (Prod.ext_iff.mp hm).1, (Prod.ext_iff.mp hm).2⟩

/-- (per-input form)  **C06, the added-space clause (byte level), comments allowed or not**: under the hypotheses
    of `C06_bytes_on` with AddSpaceWhenStrippingTag set instead, the text re-read from the output is the input's
    text plus one space per removed tag, in this form: the texts agree once spaces are removed, and text
    length + number of tags is the same on both sides -/
theorem C06_bytes_spaces_on (p : Policy) (input : Bytes) (hp : PlainOn p.ensureInit (tokenize input))
    (hs : p.ensureInit.addSpaces = true) (hc : ∀ t ∈ tokenize input, CalmTok p.ensureInit t) :
    let to := tokenize (p.sanitizeCore input)
    let ti := tokenize input
    noSpaces (textOf to) = noSpaces (textOf ti) ∧
    (textOf to).length + tagCount to = (textOf ti).length + tagCount ti := by
  obtain ⟨toks, hr, hseg, hm, hn⟩ :=
    run_text_spOn hp.noUnsafe hs (tokenize input) hp.noRaw (tokenize_wf input) hc {} ⟨rfl, rfl⟩ stackInv_init
  simp only
  rw [Policy.sanitizeCore, tokenize_of_writes hr hseg, textOf_coalesce, tagCount_coalesce, textOf_map_reread, tagCount_map_reread]
  exact ⟨hn, hm⟩

/-- **C06, the added-space clause (byte level)**: for a plain policy with AddSpaceWhenStrippingTag
    and an input free of script/style/skip-content elements, the text re-read from the output is
    the input's text plus one space per removed tag, in the form of `C06_bytes_spaces_on` -/
theorem C06_bytes_spaces (p : Policy) (hp : Plain p.ensureInit) (hs : p.ensureInit.addSpaces = true) (input : Bytes)
    (hc : ∀ t ∈ tokenize input, CalmTok p.ensureInit t) :
    let to := tokenize (p.sanitizeCore input)
    let ti := tokenize input
    noSpaces (textOf to) = noSpaces (textOf ti) ∧
    (textOf to).length + tagCount to = (textOf ti).length + tagCount ti :=
  C06_bytes_spaces_on p input (hp.toC.on _) hs hc

/-- non-vacuity: the hypotheses of `C06_bytes` are met by a concrete policy and input with
    kept tags, dropped tags and entities -/
example :
    let p : Policy := { initialized := true, elsAndAttrs := [(b!"b", [])], setOfElementsAllowedWithoutAttrs := [b!"b"],
                        setOfElementsToSkipContent := [b!"object"] }
    p.ensureInit.addSpaces = false ∧
    (∀ t ∈ tokenize b!"a &amp; <i>&lt;c</i> <b>d</b>", CalmTok p.ensureInit t) := by
  refine ⟨rfl, ?_⟩
  unfold CalmTok
  decide

example :
    let p : Policy := { initialized := true, elsAndAttrs := [(b!"b", [])], setOfElementsAllowedWithoutAttrs := [b!"b"] }
    p.sanitizeCore b!"a &amp; b <i>&lt;c&gt;</i> \"q\" <b>'s'\r</b>" =
      b!"a &amp; b &lt;c&gt; &#34;q&#34; <b>&#39;s&#39;\n</b>" := by decide

/-! ### `oracleC06` on the model

`oracleC06` — which is what every generated case is held to — holds of the model's output on every input
  in the class of `C06_bytes_on` / `C06_bytes_spaces_on` (`PlainOn`: no AllowUnsafe, and no raw-text tag
  *of this input* names an allowed element), for every combination of the two options that touch text:
  comments allowed or not, AddSpaceWhenStrippingTag set or not. -/

theorem calm_of_inClass (p : Policy) (input : Bytes) (h : inClassC06 p input = true) :
    ∀ t ∈ tokenize input, CalmTok p t := by
  unfold inClassC06 at h
  simp only [Bool.and_eq_true, List.all_eq_true] at h
  intro t ht htag
  have := h.2 t ht
  rw [htag] at this
  simp only [Bool.not_true, Bool.false_or, Bool.not_eq_true', Bool.or_eq_false_iff] at this
  exact ⟨this.1, this.2⟩

theorem oracleC06_model (p : Policy) (input : Bytes) (hp : PlainOn p.ensureInit (tokenize input)) :
    oracleC06 p.ensureInit input (p.sanitizeCore input) = true := by
  unfold oracleC06
  cases hin : inClassC06 p.ensureInit input with
  | false => rfl
  | true =>
    have hc := calm_of_inClass p.ensureInit input hin
    cases hs : p.ensureInit.addSpaces with
    | false =>
      simp only [Bool.not_true, Bool.false_or, Bool.false_eq_true, ↓reduceIte, beq_iff_eq]
      exact C06_bytes_on p input hp hs hc
    | true =>
      obtain ⟨h1, h2⟩ := C06_bytes_spaces_on p input hp hs hc
      simp only [Bool.not_true, Bool.false_or, ↓reduceIte, Bool.and_eq_true, beq_iff_eq]
      exact ⟨h1, h2⟩

/-- the class is inhabited by a case with a comment, a kept tag, a dropped tag and added spaces -/
example :
    let p : Policy := { initialized := true, elsAndAttrs := [(b!"b", [])], setOfElementsAllowedWithoutAttrs := [b!"b"],
                        allowComments := true, addSpaces := true }
    inClassC06 p.ensureInit b!"a<!--c--><i>x</i> <b>d</b>" = true ∧
    p.sanitizeCore b!"a<!--c--><i>x</i> <b>d</b>" = b!"a<!--c--> x  <b>d</b>" := by decide

end BM.Props
