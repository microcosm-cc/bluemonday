import BM.Proofs.Bytes
/-
  C01: only allowlisted elements reach the output.  Event level, for every policy without AllowUnsafe and every
  input: every `WriteString` the loop performs is the escaping of a text (which contains no `<` `>` `"` `'`), a
  single space, a comment (only if comments are allowed), or the serialisation of a start / end / self-closing tag
  whose element name the policy allows by name or by pattern; doctypes are never written (`WriteKind`, `C01_events`).
  Byte level (`C01_bytesC_on` and its corollaries, by the round trip `sanitizeTokens_roundtripOn`): every token an
  HTML tokenizer finds in the returned bytes is a text, a tag of an allowed element or an allowed comment.  The
  tree-builder clause is covered by the oracle run on the implementation's output (`oracleC01`).
-/
namespace BM.Props
open BM BM.Html BM.Spec

/-- the writes C01 allows: escaped text, the added space, a comment if comments are allowed, a tag of an allowed
    element -/
inductive WriteKind (p : Policy) : Bytes → Prop where
  | text (d : Bytes) : WriteKind p (escape d)
  | space : WriteKind p [32]
  | comment (d : Bytes) : p.allowComments = true → WriteKind p (Token.render ⟨.comment, d, []⟩)
  | tag (t : Token) : isTag t = true → allowsElement p t.data = true → WriteKind p t.render

theorem attrRulesFor_allows {p : Policy} {el : Bytes} {aps : AttrRules}
    (h : p.attrRulesFor el = some aps) : allowsElement p el = true :=
  attrRulesFor_allows' h

/-- **C01 (event level)**: for every policy without AllowUnsafe and every input, every write is
    an escaped text, a space, an allowed comment, or a tag of an allowed element. -/
theorem C01_events (p : Policy) (hu : p.allowUnsafe = false) (input : Bytes) :
    ∀ w ∈ (p.run {} (tokenize input)).1, WriteKind p w.data := by
  refine run_writes_of_emit (WriteKind p) (fun he w hmem => ?_) _ _
  rcases emit_write hu he w hmem with ⟨d, h⟩ | h | ⟨d, h, hc⟩ | ⟨k, h, hk, hall, _⟩ <;> rw [h]
  · exact .text d
  · exact .space
  · exact .comment d hc
  · exact .tag k hk hall

/-- escaped text is inert: it cannot contain a tag opener or closer or a quote -/
theorem text_write_inert (d : Bytes) : ∀ c ∈ escape d, c ≠ 60 ∧ c ≠ 62 ∧ c ≠ 34 ∧ c ≠ 39 :=
  fun c hc => let h := escape_no_special d c hc; ⟨h.1, h.2.1, h.2.2.1, h.2.2.2.1⟩

/-- (per-input form)  **C01 (byte level), comments allowed or not**: for every policy without AllowUnsafe and
    every input none of whose raw-text tags the policy allows, every token an HTML tokenizer finds in the
    returned bytes is a text, a tag of an allowed element, or — only if the policy allows comments — a
    comment; never a doctype -/
theorem C01_bytesC_on (p : Policy) (input : Bytes) (hp : PlainOn p.ensureInit (tokenize input)) :
    ∀ k ∈ tokenize (p.sanitizeCore input),
      k.tt = .text ∨ (isTag k = true ∧ allowsElement p.ensureInit k.data = true) ∨
      (k.tt = .comment ∧ p.ensureInit.allowComments = true) :=
  fun k hk => (reread_tokenOn p input hp k hk).imp_right fun h => h.symm.imp_left fun h => ⟨h.1, h.2.1⟩

/-- **C01 (byte level), comments allowed or not**: for every policy without AllowUnsafe and without
    a raw-text element on its allowlist, every token an HTML tokenizer finds in the returned bytes
    is a text, a tag of an allowed element, or — only if the policy allows comments — a comment;
    never a doctype -/
theorem C01_bytesC (p : Policy) (hp : PlainC p.ensureInit) (input : Bytes) :
    ∀ k ∈ tokenize (p.sanitizeCore input),
      k.tt = .text ∨ (isTag k = true ∧ allowsElement p.ensureInit k.data = true) ∨
      (k.tt = .comment ∧ p.ensureInit.allowComments = true) :=
  C01_bytesC_on p input (hp.on _)

/-- **C01 (byte level)**: for every *plain* policy (no AllowUnsafe, no comments, no raw-text
    element on its allowlist) and every input, every token an HTML tokenizer finds in the
    bytes the sanitiser returns is a text, or a start / end / self-closing tag naming an element
    the policy allows; no comment and no doctype is ever found. -/
theorem C01_bytes (p : Policy) (hp : Plain p.ensureInit) (input : Bytes) :
    ∀ k ∈ tokenize (p.sanitizeCore input),
      k.tt = .text ∨ (isTag k = true ∧ allowsElement p.ensureInit k.data = true) :=
  fun k hk => (C01_bytesC p hp.toC input k hk).imp_right fun h =>
    h.resolve_right fun hc => by rw [hp.noComments] at hc; cases hc.2

theorem C01_bytes_no_comment_doctype (p : Policy) (hp : Plain p.ensureInit) (input : Bytes) :
    ∀ k ∈ tokenize (p.sanitizeCore input), k.tt ≠ .comment ∧ k.tt ≠ .doctype := by
  intro k hk
  rcases C01_bytes p hp input k hk with h | ⟨h, _⟩
  · simp [h]
  · unfold isTag at h
    cases htt : k.tt <;> rw [htt] at h <;> first | exact absurd h (by decide) | exact ⟨by decide, by decide⟩

/-- non-vacuity of `Plain`: a policy that allows `b` and `a href` is plain -/
example : Plain ({ initialized := true, elsAndAttrs := [(b!"b", []), (b!"a", [(b!"href", [none])])],
                   setOfElementsAllowedWithoutAttrs := [b!"b"] } : Policy).ensureInit := by
  refine ⟨rfl, rfl, ?_⟩
  intro n hn
  simp only [isRawTagName, Bool.or_eq_true, beq_iff_eq] at hn
  rcases hn with ((((((((h | h) | h) | h) | h) | h) | h) | h) | h) | h <;> subst h <;> decide

/-- non-vacuity: a policy and an input for which tags are really written and really dropped -/
example :
    let p : Policy := { initialized := true, elsAndAttrs := [(b!"b", [])], setOfElementsAllowedWithoutAttrs := [b!"b"] }
    p.sanitizeCore b!"<b>x</b><i>y</i><!-- c --><!DOCTYPE html>" = b!"<b>x</b>y" := by decide

/-- non-vacuity: a policy that allows comments is in the class, and a comment comes through -/
example :
    let p : Policy := { initialized := true, allowComments := true, elsAndAttrs := [(b!"b", [])], setOfElementsAllowedWithoutAttrs := [b!"b"] }
    p.sanitizeCore b!"<b>x</b><!-- a > b --><!DOCTYPE html><i>y</i>" = b!"<b>x</b><!-- a > b -->y" := by decide

/-! ### `oracleC01` on the model (see Props/C09 for why this is stated) -/

/-- `oracleC01` holds of the model's output: every policy without AllowUnsafe, every input none of whose
    raw-text tags the policy allows -/
theorem oracleC01_model (p : Policy) (input : Bytes) (hp : PlainOn p.ensureInit (tokenize input)) :
    oracleC01 p.ensureInit (p.sanitizeCore input) = true := by
  unfold oracleC01
  rw [List.all_eq_true]
  intro k hk
  unfold tokenOkC01
  rcases C01_bytesC_on p input hp k hk with h | ⟨htag, hall⟩ | ⟨hc, hac⟩
  · rw [h]
  · rcases (isTag_iff k).mp htag with h | h | h <;> rw [h] <;> exact hall
  · rw [hc]; exact hac

end BM.Props
