import BM.Sanitize
import BM.Entry
/-
  C16: I/O failures are reported and the output stays a clean prefix.
  The model of the destination is `feed`: the sequence of `WriteString` calls the loop makes
  (`Policy.run`) is offered to a writer whose k-th call fails (transiently or for good).
-/
namespace BM.Props
open BM

theorem callFails_of_lt {k n : Nat} (perm : Bool) (h : n < k) : callFails k perm n = false := by
  cases perm <;> simp [callFails] <;> omega

theorem callFails_self (k : Nat) (perm : Bool) : callFails k perm k = true := by
  cases perm <;> simp [callFails]

theorem feed_all_accepted (failAt : Option Nat) (perm : Bool) (ws : List Write) (n : Nat)
    (h : ∀ k, failAt = some k → n + ws.length ≤ k) :
    feed failAt perm n ws = (ws.map (·.data), n + ws.length, false) := by
  induction ws generalizing n with
  | nil => rfl
  | cons w ws ih =>
    have hlater : ∀ k, failAt = some k → n + 1 + ws.length ≤ k := fun k hk => by
      have := h k hk; simp only [List.length_cons] at this; omega
    have hsum : n + 1 + ws.length = n + (ws.length + 1) := by omega
    unfold feed
    rw [ih (n + 1) hlater, hsum]
    cases failAt with
    | none => rfl
    | some k =>
      have := h k rfl
      simp only [List.length_cons] at this
      simp only [callFails_of_lt perm (show n < k by omega), Bool.false_eq_true, ↓reduceIte, List.map_cons,
        List.length_cons]

theorem feed_none (ws : List Write) (n : Nat) :
    feed none false n ws = (ws.map (·.data), n + ws.length, false) :=
  feed_all_accepted none false ws n (fun _ h => by cases h)

theorem feed_prefix (k : Nat) (perm : Bool) (ws : List Write) (n : Nat) :
    ∃ rest, ws.map (·.data) = (feed (some k) perm n ws).1 ++ rest := by
  induction ws generalizing n with
  | nil => exact ⟨[], rfl⟩
  | cons w ws ih =>
    unfold feed
    cases hf : callFails k perm n with
    | true => exact ⟨(w :: ws).map (·.data), by simp only [hf, ↓reduceIte, List.nil_append]⟩
    | false =>
      obtain ⟨rest, hr⟩ := ih (n + 1)
      exact ⟨rest, by simp only [hf, Bool.false_eq_true, ↓reduceIte, List.map_cons, hr, List.cons_append]⟩

theorem feed_fail_reported (k : Nat) (perm : Bool) (ws : List Write)
    (n : Nat) (hn : n ≤ k) (hk : k < n + ws.length) :
    (feed (some k) perm n ws).2.2 = true ∧ (feed (some k) perm n ws).2.1 = k + 1 := by
  induction ws generalizing n with
  | nil => simp only [List.length_nil] at hk; omega
  | cons w ws ih =>
    unfold feed
    by_cases hkn : k = n
    · subst hkn
      simp only [callFails_self, ↓reduceIte, and_self]
    · simp only [callFails_of_lt perm (show n < k by omega), Bool.false_eq_true, ↓reduceIte]
      exact ih (n + 1) (by omega) (by simp only [List.length_cons] at hk; omega)

theorem feed_fail_unreached (k : Nat) (perm : Bool) (ws : List Write) (n : Nat) (hk : n + ws.length ≤ k) :
    feed (some k) perm n ws = (ws.map (·.data), n + ws.length, false) :=
  feed_all_accepted (some k) perm ws n (fun _ h => by cases h; exact hk)

/-- **C16 (writer half)** for every policy, input, failure index and failure kind:
    the accepted bytes are a prefix of the fault-free output; if the failing call is reached
    an error is returned and exactly `k+1` write calls were made (none after the failure) -/
theorem C16_writer (p : Policy) (input : Bytes) (k : Nat) (perm : Bool) :
    let ws := (p.run {} (Html.tokenize input)).1
    (∃ rest, ws.map (·.data) = (feed (some k) perm 0 ws).1 ++ rest) ∧
    (k < ws.length → (feed (some k) perm 0 ws).2.2 = true ∧ (feed (some k) perm 0 ws).2.1 = k + 1) ∧
    (ws.length ≤ k → (feed (some k) perm 0 ws).2.2 = false) := by
  intro ws
  refine ⟨feed_prefix k perm ws 0, ?_, ?_⟩
  · intro hk; exact feed_fail_reported k perm ws 0 (by omega) (by omega)
  · intro hk; rw [feed_fail_unreached k perm ws 0 (by omega)]

/-- **C16 (reader half)** for every policy, every prefix the reader delivered before it failed, and
    whatever the destination does: `SanitizeReaderToWriter` returns an error and `SanitizeReader`
    returns an empty buffer -/
theorem C16_reader (p : Policy) (delivered : Bytes) (failAt : Option Nat) (perm : Bool) :
    (p.sanitizeRW delivered .failed failAt perm).2 = true ∧ p.sanitizeReaderM delivered .failed = [] := by
  unfold Policy.sanitizeReaderM Policy.sanitizeRW
  simp

/-- **C16 (writer half) on the entry point**: with a reader that ends normally, the funnel returns
    an error exactly when a write call that is reached fails, and what the destination accepted is
    a prefix of the fault-free result -/
theorem C16_entry_writer (p : Policy) (input : Bytes) (k : Nat) (perm : Bool) :
    let ws := (p.ensureInit.run {} (Html.tokenize input)).1
    ((p.sanitizeRW input .eof (some k) perm).2 = true ↔ k < ws.length) ∧
    ∃ rest, p.sanitizeCore input = (p.sanitizeRW input .eof (some k) perm).1.flatten ++ rest := by
  intro ws
  have hw := C16_writer p.ensureInit input k perm
  obtain ⟨⟨rest, hpre⟩, hfail, hok⟩ := hw
  constructor
  · have hdec : decide (ReadEnd.eof = ReadEnd.failed) = false := by decide
    unfold Policy.sanitizeRW
    simp only [hdec, Bool.or_false]
    constructor
    · intro h
      by_cases hk : k < ws.length
      · exact hk
      · have := hok (Nat.le_of_not_lt hk)
        rw [this] at h; cases h
    · intro hk; exact (hfail hk).1
  · refine ⟨rest.flatten, ?_⟩
    unfold Policy.sanitizeCore Policy.sanitizeTokens Policy.sanitizeRW
    simp only
    rw [hpre, List.flatten_append]

/-- non-vacuity: a run with several writes, failing at the second -/
example :
    let p : Policy := { initialized := true, elsAndAttrs := [(b!"b", [])], setOfElementsAllowedWithoutAttrs := [b!"b"] }
    let ws := (p.run {} (Html.tokenize b!"<b>x</b>")).1
    ws.length = 3 ∧ (feed (some 1) false 0 ws) = ([b!"<b>"], 2, true) := by decide

end BM.Props
