import BM.Sanitize
import BM.Entry
import BM.Props.C16
/-
  C15: all entry points agree.  In the model the four entry points are defined on top of
  one function of the concatenated input (`sanitizeCore`): `Sanitize`/`SanitizeBytes` add
  the blank-input short cut, the reader entry points receive the same bytes in chunks.
  The theorems below state what that construction gives; the substance of C15 — that the
  real tokenizer's buffer refills are invisible — is not something this model can exhibit
  and is carried by the correspondence run (every chunking mode × both writer kinds, the
  input buffer compared before and after, and the two command-line tools).
-/
namespace BM.Props
open BM

/-- a reader delivers the input as a list of chunks (possibly empty ones) -/
def Policy.sanitizeReader (p : Policy) (chunks : List Bytes) : Bytes := p.sanitizeCore chunks.flatten

/-- **C15 (model)**: for non-blank input, Sanitize/SanitizeBytes and the reader entry points
    return the same bytes whatever the chunking -/
theorem C15_entry_points_agree (p : Policy) (chunks : List Bytes)
    (hnb : (Css.trimSpace chunks.flatten).isEmpty = false) :
    p.sanitize chunks.flatten = Policy.sanitizeReader p chunks := by
  simp [Policy.sanitize, Policy.sanitizeReader, hnb]

theorem C15_chunking (p : Policy) (c1 c2 : List Bytes) (h : c1.flatten = c2.flatten) :
    Policy.sanitizeReader p c1 = Policy.sanitizeReader p c2 := by
  simp [Policy.sanitizeReader, h]

/-- blank input is returned unchanged by Sanitize / SanitizeBytes -/
theorem C15_blank (p : Policy) (input : Bytes) (hb : (Css.trimSpace input).isEmpty = true) :
    p.sanitize input = input := by
  simp [Policy.sanitize, hb]

/-- a reader that ends with io.EOF into a buffer: the funnel's bytes -/
theorem sanitizeReaderM_eof (p : Policy) (d : Bytes) : p.sanitizeReaderM d .eof = p.sanitizeCore d := by
  unfold Policy.sanitizeReaderM Policy.sanitizeRW Policy.sanitizeCore Policy.sanitizeTokens
  simp [feed_none]

/-- **C15**: `Sanitize` / `SanitizeBytes`, written as blank check + `SanitizeReader` over the input,
    are the function `Policy.sanitize` every other theorem speaks about -/
theorem C15_sanitize_is_entry (p : Policy) (input : Bytes) : p.sanitizeEntry input = p.sanitize input := by
  unfold Policy.sanitizeEntry Policy.sanitize
  rw [sanitizeReaderM_eof]

/-- **C15**: what `SanitizeReaderToWriter` hands to a destination that never fails, from a reader
    that ends with io.EOF, is — write by write, so whether or not the destination implements
    `WriteString` — the bytes `SanitizeReader` returns -/
theorem C15_writer_agrees (p : Policy) (d : Bytes) :
    (p.sanitizeRW d .eof none false).2 = false ∧ (p.sanitizeRW d .eof none false).1.flatten = p.sanitizeReaderM d .eof := by
  unfold Policy.sanitizeReaderM Policy.sanitizeRW
  simp [feed_none]

example : (Css.trimSpace b!" \r\n\t").isEmpty = true := by decide
example : (Css.trimSpace b!" x ") = b!"x" := by decide

end BM.Props
