import BM.Props.C20
import BM.Props.C11b
/-
  "Added rel tokens are not repeated": the link-hardening block is idempotent.  `hardenLinks_idem` — for every
  policy, element and attribute list, hardening the hardened list changes nothing: a rel value that carries the
  required tokens gets none again, the first target that is `_blank` stays, a rel / target attribute that was
  appended is found on the second run and nothing further is appended.  From it, C20 for policies with link
  options whose rules let `rel` and `target` through on link elements (`LinkOpen`, `C20_links_open`), the
  counterpart of `C20_links` (which covers rules that let neither through; `C20_links_out` is its form with the
  proviso on the output).
-/
namespace BM.Props
open BM BM.Html BM.Spec

def hasKey (l : List Attr) (k : Bytes) : Bool := l.any (·.key == k)
def anyBlank (l : List Attr) : Bool := l.any fun a => a.key == b!"target" && asciiEqualFold a.val b!"_blank"

theorem addNoOpener_id (l : List Attr) (hr : HasRel l) (ha : AllRel b!"noopener" l) : addNoOpener l = l := by
  unfold addNoOpener
  rw [(hasRel_iff_any l).mp hr]
  simp only [↓reduceIte]
  refine (List.map_congr_left fun a ham => ?_).trans (List.map_id' l)
  split
  · rename_i hk
    have hk' : a.key = b!"rel" := by simpa using hk
    rw [addRelToken_no_dup _ _ _ (ha a ham hk')]
  · rfl

/-- an attribute list on which the block has already done its work -/
structure Hardened (isA nf nr tb : Bool) (l : List Attr) : Prop where
  nofollow : nf = true → HasRel l ∧ AllRel b!"nofollow" l
  noreferrer : nr = true → HasRel l ∧ AllRel b!"noreferrer" l
  target : (isA && tb) = true → fixFirstTarget l = l ∧ hasKey l b!"target" = true
  noopener : ((isA && (anyBlank l || (tb && hasKey l b!"target"))) || (isA && tb)) = true →
    HasRel l ∧ AllRel b!"noopener" l

theorem hardenCore_fixed (isA nf nr tb : Bool) (l : List Attr) (h : Hardened isA nf nr tb l) :
    hardenCore isA nf nr tb l = l := by
  unfold hardenCore
  have hmap : l.map (relFix nf nr) = l :=
    (List.map_congr_left fun a ha =>
      relFix_id nf nr a (fun hn => (h.nofollow hn).2 a ha) (fun hn => (h.noreferrer hn).2 a ha)).trans (List.map_id' l)
  simp only [hmap]
  have hrel : (nf || nr) = true → l.any (·.key == b!"rel") = true := by
    intro hn
    simp only [Bool.or_eq_true] at hn
    rcases hn with hn | hn
    · exact (hasRel_iff_any l).mp (h.nofollow hn).1
    · exact (hasRel_iff_any l).mp (h.noreferrer hn).1
  by_cases hat : (isA && tb) = true
  · obtain ⟨hfix, htgt⟩ := h.target hat
    have hA : isA = true := by simp only [Bool.and_eq_true] at hat; exact hat.1
    have hT : tb = true := by simp only [Bool.and_eq_true] at hat; exact hat.2
    have htgt' : l.any (·.key == b!"target") = true := htgt
    obtain ⟨hr, hno⟩ := h.noopener (by simp [hat])
    have hrel' : l.any (·.key == b!"rel") = true := (hasRel_iff_any l).mp hr
    subst hA hT
    simp only [Bool.and_self, ↓reduceIte, hfix, hrel', Bool.not_true, Bool.and_false, Bool.false_eq_true, htgt',
      Bool.or_true]
    exact addNoOpener_id l hr hno
  · have hat' : (isA && tb) = false := by simpa using hat
    simp only [hat', Bool.false_eq_true, ↓reduceIte, Bool.false_and, Bool.or_false]
    have h3 : (if ((nf || nr) && !l.any (·.key == b!"rel")) = true then l ++ [(⟨b!"rel", newRelValue nf nr⟩ : Attr)] else l) = l := by
      by_cases hn : (nf || nr) = true
      · simp [hrel hn]
      · have : (nf || nr) = false := by simpa using hn
        simp [this]
    rw [h3]
    by_cases hb : (isA && ((l.any fun a => a.key == b!"target" && asciiEqualFold a.val b!"_blank") ||
        (tb && l.any (·.key == b!"target")))) = true
    · simp only [hb, ↓reduceIte]
      obtain ⟨hr, hno⟩ := h.noopener (by
        have : (isA && (anyBlank l || (tb && hasKey l b!"target"))) = true := hb
        simp [this])
      exact addNoOpener_id l hr hno
    · simp only [hb, Bool.false_eq_true, ↓reduceIte]

theorem anyBlank_eq (l : List Attr) :
    anyBlank l = (l.filter (·.key == b!"target")).any fun a => asciiEqualFold a.val b!"_blank" := by
  simp only [anyBlank, List.any_filter]

/-- "there is a target attribute and the first one is `_blank`" -/
def FirstBlank (l : List Attr) : Prop := fixFirstTarget l = l ∧ hasKey l b!"target" = true

/-- C11's reading of "the first target is `_blank`" (through the target attributes) gives this file's (through
    `fixFirstTarget`) -/
theorem FirstTargetBlank.firstBlank {l : List Attr} (h : FirstTargetBlank l) : FirstBlank l := by
  obtain ⟨a, ha, hb⟩ := h
  unfold targets at ha
  have hk : hasKey l b!"target" = true := by
    rw [hasKey, any_key_filter]
    cases hf : l.filter (·.key == b!"target") with
    | nil => rw [hf] at ha; cases ha
    | cons _ _ => rfl
  refine ⟨?_, hk⟩
  clear hk
  induction l with
  | nil => cases ha
  | cons x xs ih =>
    rw [List.filter_cons] at ha
    unfold fixFirstTarget
    split at ha
    · cases ha
      rw [if_pos ‹_›, if_pos hb]
    · rw [if_neg ‹_›, ih ha]

/-- with AddTargetBlank… on an `a`: after the block the first target attribute is `_blank` -/
theorem firstBlank_hardenCore (nf nr : Bool) (u : List Attr) : FirstBlank (hardenCore true nf nr true u) := by
  obtain ⟨a, as, h, hb⟩ := fixedTargets_head (targets u)
  exact FirstTargetBlank.firstBlank ⟨a, by rw [hardenCore_targets_eq, h]; rfl, hb⟩

theorem targets_hardenCore {isA nf nr tb : Bool} (h : (isA && tb) = false) (u : List Attr) :
    anyBlank (hardenCore isA nf nr tb u) = anyBlank u ∧
      hasKey (hardenCore isA nf nr tb u) b!"target" = hasKey u b!"target" := by
  have hf := hardenCore_filter (k := b!"target") (nf := nf) (nr := nr) (by decide) (fun _ => h) u
  exact ⟨by rw [anyBlank_eq, anyBlank_eq, hf], by rw [hasKey, hasKey, any_key_filter, any_key_filter u, hf]⟩

theorem anyBlank_hardenCore (isA nf nr : Bool) (u : List Attr) :
    anyBlank (hardenCore isA nf nr false u) = anyBlank u :=
  (targets_hardenCore (Bool.and_false isA) u).1

def isHref (a : Attr) : Bool := a.key == b!"href"

theorem filter_href_hardenCore (isA nf nr tb : Bool) (u : List Attr) :
    (hardenCore isA nf nr tb u).filter isHref = u.filter isHref :=
  hardenCore_filter (k := b!"href") (by decide) (fun e => absurd e (by decide)) u

/-- does some href of the list have a host (for net/url)? -/
def extOf (u : List Attr) : Bool :=
  (u.filter (·.key == b!"href")).any fun a => match Url.parse a.val with
    | some x => !x.host.isEmpty
    | none => false

theorem hardened_hardenCore (isA nf nr tb : Bool) (u : List Attr) :
    Hardened isA nf nr tb (hardenCore isA nf nr tb u) where
  nofollow := (hardenCore_required isA nf nr tb u).1
  noreferrer := (hardenCore_required isA nf nr tb u).2
  target hat := by
    rw [Bool.and_eq_true] at hat
    rw [hat.1, hat.2]
    exact firstBlank_hardenCore nf nr u
  noopener hprem := by
    cases hat : isA && tb
    · -- the target attributes are those of `u`, so the premise is the one under which noopener was added
      rw [(targets_hardenCore hat u).1, (targets_hardenCore hat u).2] at hprem
      exact hardenCore_noopener hprem
    · exact hardenCore_noopener (by rw [hat, Bool.or_true])

/-- **added rel tokens are not repeated**: hardening a hardened attribute list changes nothing — every policy,
    every element, every attribute list -/
theorem hardenLinks_idem (p : Policy) (el : Bytes) (u : List Attr) :
    p.hardenLinks el (p.hardenLinks el u) = p.hardenLinks el u := by
  rw [hardenLinks_core p el u]
  split
  · rw [hardenLinks_core, if_pos ‹_›]
  · -- the second run sees the same hrefs, hence takes the same three decisions
    rename_i he
    have hfil : (hardenCore _ _ _ _ u).filter (·.key == b!"href") = u.filter (·.key == b!"href") :=
      filter_href_hardenCore (el == b!"a")
        (p.requireNoFollow || (hasHostHref u && p.requireNoFollowFullyQualifiedLinks))
        (p.requireNoReferrer || (hasHostHref u && p.requireNoReferrerFullyQualifiedLinks))
        (hasHostHref u && p.addTargetBlankToFullyQualifiedLinks) u
    rw [hardenLinks_core, hfil, show hasHostHref (hardenCore _ _ _ _ u) = hasHostHref u from congrArg (List.any · _) hfil,
      if_neg he]
    exact hardenCore_fixed _ _ _ _ _ (hardened_hardenCore _ _ _ _ u)

theorem hardenStage_idem (p : Policy) (el : Bytes) (u : List Attr) :
    p.hardenStage el (p.hardenStage el u) = p.hardenStage el u := by
  unfold Policy.hardenStage
  split
  · split
    · exact hardenLinks_idem p el u
    · rfl
  · rfl

/-- **the attribute pass reproduces its result on element `el`** when the rules do not look at the value of the
    element's URL attribute and, on a link element, still accept a list they accepted once the hardening block has
    run over it (`hclosed`; e.g. because they accept `rel` and `target` whatever their value): the tokens and the
    target the options added are found in place on the second pass, and nothing is added again -/
theorem link_idemOpen (p : Policy) (el : Bytes) (hs : LinkCoreAt p el) (attrs out : List Attr) (aps : AttrRules)
    (h : p.sanitizeAttrs el attrs aps = some out)
    (hblind : ∀ k, urlKeyFor el = some k → ∀ v v',
      (p.filterAttr el aps false ⟨k, v⟩).isSome = (p.filterAttr el aps false ⟨k, v'⟩).isSome)
    (hclosed : isHrefElement el = true → ∀ u : List Attr, (∀ a ∈ u, (p.filterAttr el aps false a).isSome = true) →
      ∀ b ∈ p.hardenLinks el u, (p.filterAttr el aps false b).isSome = true)
    (hstab : UrlStableOn p el out) :
    p.sanitizeAttrs el out aps = some out :=
  link_idem_of hs h (fun k hk => .inl (hblind k hk)) hstab fun u hu => by
    have hacc : ∀ b ∈ p.hardenStage el u, (p.filterAttr el aps false b).isSome = true := by
      unfold Policy.hardenStage
      split
      · rename_i hc
        exact hclosed (by simp only [Bool.and_eq_true] at hc; exact hc.2) u hu
      · exact hu
    rw [List.filter_eq_self.mpr hacc, hardenStage_idem]

/-- policies with link options whose rules let `rel` and `target` through, whatever their value, on the link
    elements (and, like `LinkSimple`, attach no value pattern to the URL attributes; no styles, forced crossorigin
    or sandbox, no rewriter) -/
structure LinkOpen (p : Policy) : Prop where
  core : ∀ el, LinkCoreAt p el
  blind : ∀ el aps, p.attrRulesFor el = some aps → ∀ k, urlKeyFor el = some k → ∀ v v',
    (p.filterAttr el aps false ⟨k, v⟩).isSome = (p.filterAttr el aps false ⟨k, v'⟩).isSome
  letThrough : ∀ el aps, p.attrRulesFor el = some aps → isHrefElement el = true → ∀ v,
    (p.filterAttr el aps false ⟨b!"rel", v⟩).isSome = true ∧ (p.filterAttr el aps false ⟨b!"target", v⟩).isSome = true

def UrlStableTag (p : Policy) (k : Token) : Prop := UrlStableOn p k.data k.attrs

theorem attrFixG_of_open (p : Policy) (hs : LinkOpen p) (t : Token) : AttrFixG p (UrlStableTag p) t := by
  refine attrFixG_of_idem fun attrs aps haps h hG => ?_
  refine link_idemOpen p t.data (hs.core t.data) t.attrs attrs aps h (hs.blind t.data aps haps) ?_ hG
  intro hhref u hu b hb
  show (p.filterAttr t.data aps false ⟨b.key, b.val⟩).isSome = true
  rcases hardenLinks_mem hb with hb | hk | ⟨hk, _⟩
  · exact hu b hb
  · rw [hk]; exact (hs.letThrough t.data aps haps hhref b.val).1
  · rw [hk]; exact (hs.letThrough t.data aps haps hhref b.val).2

/-- **C20, policies with link options whose rules let rel and target through**: sanitising twice is sanitising
    once — "added rel tokens are not repeated" — whenever URL normalisation is stable on the output: every URL
    value at a checked position of `Sanitize(x)` is returned unchanged by the URL check.
    Together with `C20_links` (rules that let neither through) this leaves exactly the mixed case, where the
    order of the two attributes changes on the second pass: the known finding `forced-attr-order`. -/
theorem C20_links_open (p : Policy) (hp : Plain p.ensureInit) (hs : LinkOpen p.ensureInit) (input : Bytes)
    (hstab : ∀ k ∈ tokenize (p.sanitizeCore input), isOpen k → UrlStableTag p.ensureInit k) :
    p.sanitizeCore (p.sanitizeCore input) = p.sanitizeCore input :=
  C20_fix_out p hp (UrlStableTag p.ensureInit) input (fun t _ => attrFixG_of_open _ hs t) hstab


/-- policies with link options whose rules let neither `rel` nor `target` through on link elements and attach no
    value pattern to the URL attributes (no styles, forced crossorigin or sandbox, no rewriter) — `LinkSimple`
    without its whole-policy proviso on URL normalisation -/
structure LinkClosed (p : Policy) : Prop where
  base : ∀ el, LinkBaseAt p el
  blind : ∀ el aps, p.attrRulesFor el = some aps → ∀ k, urlKeyFor el = some k → ∀ v v',
    (p.filterAttr el aps false ⟨k, v⟩).isSome = (p.filterAttr el aps false ⟨k, v'⟩).isSome

theorem attrFixG_of_closed (p : Policy) (hs : LinkClosed p) (t : Token) : AttrFixG p (UrlStableTag p) t :=
  attrFixG_of_idem fun attrs aps haps h hG =>
    link_idemAt p t.data (hs.base t.data) t.attrs attrs aps haps h (fun k hk => .inl (hs.blind t.data aps haps k hk)) hG

/-- **C20, policies that check URLs, with or without link options, whose rules let neither rel nor target
    through**: sanitising twice is sanitising once whenever URL normalisation is stable on the output.  (The
    output-level form of `C20_urls` and `C20_links`, whose proviso is a hypothesis on the policy.) -/
theorem C20_links_out (p : Policy) (hp : Plain p.ensureInit) (hs : LinkClosed p.ensureInit) (input : Bytes)
    (hstab : ∀ k ∈ tokenize (p.sanitizeCore input), isOpen k → UrlStableTag p.ensureInit k) :
    p.sanitizeCore (p.sanitizeCore input) = p.sanitizeCore input :=
  C20_fix_out p hp (UrlStableTag p.ensureInit) input (fun t _ => attrFixG_of_closed _ hs t) hstab


/-- the class is inhabited: rel and target allowed on `a` next to href, nofollow and target-blank options -/
def openPolicy : Policy :=
  { initialized := true, requireParseableURLs := true, requireNoFollow := true,
    addTargetBlankToFullyQualifiedLinks := true, allowURLSchemes := [(b!"https", [])],
    elsAndAttrs := [(b!"a", [(b!"href", [Option.none]), (b!"rel", [Option.none]), (b!"target", [Option.none])])] }

theorem openPolicy_rules (el : Bytes) (aps : AttrRules) (h : openPolicy.attrRulesFor el = some aps) :
    el = b!"a" ∧ aps = [(b!"href", [Option.none]), (b!"rel", [Option.none]), (b!"target", [Option.none])] :=
  attrRulesFor_single rfl rfl h

example : LinkOpen openPolicy where
  core := fun el =>
    { noStyle := by simp [openPolicy, Policy.hasStylePolicies, Map.get?]
      noCross := rfl
      noSandbox := rfl
      noRewriter := rfl }
  blind := by
    intro el aps h k hk v v'
    obtain ⟨rfl, rfl⟩ := openPolicy_rules el aps h
    have hkh : k = b!"href" := by
      have : urlKeyFor b!"a" = some b!"href" := by decide
      rw [this] at hk; exact (Option.some.inj hk).symm
    subst hkh
    exact filterAttr_blind _ _ _ _ (by decide) (by decide) v v'
  letThrough := by
    intro el aps h _ v
    obtain ⟨rfl, rfl⟩ := openPolicy_rules el aps h
    constructor <;> simp [Policy.filterAttr, openPolicy, Map.get?, attrPoliciesAccept, isDataAttribute]


/-- … and so is `LinkClosed`: only href allowed on `a`, the same options -/
def closedPolicy : Policy :=
  { initialized := true, requireParseableURLs := true, requireNoFollow := true,
    addTargetBlankToFullyQualifiedLinks := true, allowURLSchemes := [(b!"https", [])],
    elsAndAttrs := [(b!"a", [(b!"href", [Option.none])])] }

theorem closedPolicy_rules (el : Bytes) (aps : AttrRules) (h : closedPolicy.attrRulesFor el = some aps) :
    el = b!"a" ∧ aps = [(b!"href", [Option.none])] :=
  attrRulesFor_single rfl rfl h

example : LinkClosed closedPolicy where
  base := fun el =>
    { noStyle := by simp [closedPolicy, Policy.hasStylePolicies, Map.get?]
      noCross := rfl
      noSandbox := rfl
      noRewriter := rfl
      noRelTarget := by
        intro aps h _ v
        obtain ⟨rfl, rfl⟩ := closedPolicy_rules el aps h
        exact ⟨filterAttr_noRule _ _ _ _ (by decide) (by decide) (by decide) v,
               filterAttr_noRule _ _ _ _ (by decide) (by decide) (by decide) v⟩ }
  blind := by
    intro el aps h k hk v v'
    obtain ⟨rfl, rfl⟩ := closedPolicy_rules el aps h
    have hkh : k = b!"href" := by
      have : urlKeyFor b!"a" = some b!"href" := by decide
      rw [this] at hk; exact (Option.some.inj hk).symm
    subst hkh
    exact filterAttr_blind _ _ _ _ (by decide) (by decide) v v'

/-- such a policy at work (a test, not the unbounded claim): rel and target are allowed on `a`, the options add
    to them in place, and the second pass changes nothing -/
example :
    let p : Policy := { initialized := true, requireParseableURLs := true, requireNoFollow := true,
                        addTargetBlankToFullyQualifiedLinks := true, allowURLSchemes := [(b!"https", [])],
                        elsAndAttrs := [(b!"a", [(b!"href", [none]), (b!"rel", [none]), (b!"target", [none])])] }
    p.sanitizeCore b!"<a rel=\"author\" href=\"https://a.b/\" target=\"x\">t</a>" =
      b!"<a rel=\"author nofollow noopener\" href=\"https://a.b/\" target=\"_blank\">t</a>" ∧
    p.sanitizeCore (p.sanitizeCore b!"<a rel=\"author\" href=\"https://a.b/\" target=\"x\">t</a>") =
      p.sanitizeCore b!"<a rel=\"author\" href=\"https://a.b/\" target=\"x\">t</a>" := by decide +kernel

end BM.Props
