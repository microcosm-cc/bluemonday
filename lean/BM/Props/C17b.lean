import BM.Props.C17
import BM.Proofs.ViewTables
import BM.Proofs.WFBuild
/-
  C17 at the level of the bytes returned.  `C17_view_of_tables`: the view through which `sanitize`
  reads a policy (Proofs/Congr) is determined by the switches, the skip set, the scheme
  registrations and the rule tables *read as sets* (`SameTables`, `SameTables2`), for well-formed
  policies.  With `sanitize_congr` and the table theorems of Props/C17 this gives the property at
  full strength on the model: histories that make the same rule-adding calls, in any order and in
  any spelling, and the same switch-like calls in the same order, build policies that return the
  same bytes for every input.
-/
namespace BM.Props
open BM

/-- **the view is a function of the tables read as sets** -/
theorem C17_view_of_tables (T : Nat → Bytes → Bool) (p q : Policy) (hp : p.WF T) (hq : q.WF T)
    (hsw : p.switches = q.switches) (h1 : SameTables p q) (h2 : SameTables2 p q)
    (hskip : ∀ el, p.setOfElementsToSkipContent.contains el = q.setOfElementsToSkipContent.contains el)
    (hsch : ∀ s, p.allowURLSchemes.get? s = q.allowURLSchemes.get? s) : p.view = q.view := by
  have hES : ∀ el, p.hasElemStyle el ↔ q.hasElemStyle el := by
    intro el
    unfold Policy.hasElemStyle
    simp only [h1.elemStyleRules]
  simp only [Policy.view, View.mk.injEq]
  -- each component of the view is a Boolean function: equal as soon as true on the same arguments
  have beq {α : Type} {f g : α → Bool} (h : ∀ a, f a = true ↔ g a = true) : f = g :=
    funext fun a => Bool.eq_iff_iff.mpr (h a)
  refine ⟨hsw, beq fun el => ?_, funext fun el => funext fun k => beq fun v => ?_, funext fun k => beq fun v => ?_,
    beq fun el => ?_, funext hskip, beq fun el => ?_, beq fun el => ?_, beq fun el => ?_,
    funext fun el => beq fun dec => ?_, beq fun u => ?_⟩
  · rw [rulesSome_iff T p hp, rulesSome_iff T q hq, h1.hasElem]
    simp only [h2.hasPattern]
  · rw [accept_iff T p hp, accept_iff T q hq, h1.hasElem]
    simp only [h1.elemRules, h2.matchRules]
  · rw [acceptBy_iff, acceptBy_iff]
    exact exists_congr fun x => and_congr_left' (h1.globalRules k x)
  · rw [noAttrs_iff T p hp, noAttrs_iff T q hq, h2.bareOK]
    simp only [h2.bareOKPattern]
  · exact h1.hasElem el
  · rw [pattern_iff T p hp, pattern_iff T q hq, h1.hasElem]
    simp only [h2.hasPattern]
  · rw [hasStyle_iff T p hp, hasStyle_iff T q hq, hES]
    simp only [h1.globalStyleRules, h2.matchStyleRules]
  · rw [decl_iff T p hp, decl_iff T q hq]
    simp only [hES, h1.elemStyleRules, h1.globalStyleRules, h2.matchStyleRules]
  · rw [schemeOK_iff T p hp, schemeOK_iff T q hq, hsch]
    simp only [h2.schemePattern]

/-- **the output is a function of the tables read by lookup**: `sanitize` consults the Go maps of a
    policy only by key and by "some entry / some rule accepts" — two well-formed initialised policies with
    the same switches, skip set and scheme registrations whose tables agree as sets return the same
    bytes and panic on the same inputs, however the entries are ordered inside the maps and slices (C13: no
    dependence on map iteration order; C17: a policy is its rule set) -/
theorem C17_output_of_tables (T : Nat → Bytes → Bool) (p q : Policy) (hip : p.initialized = true)
    (hiq : q.initialized = true) (hp : p.WF T) (hq : q.WF T)
    (hsw : p.switches = q.switches) (h1 : SameTables p q) (h2 : SameTables2 p q)
    (hskip : ∀ el, p.setOfElementsToSkipContent.contains el = q.setOfElementsToSkipContent.contains el)
    (hsch : ∀ s, p.allowURLSchemes.get? s = q.allowURLSchemes.get? s) (input : Bytes) :
    p.sanitize input = q.sanitize input ∧ p.panics input = q.panics input := by
  have hv : p.ensureInit.view = q.ensureInit.view := by
    rw [ensureInit_of_init _ hip, ensureInit_of_init _ hiq]
    exact C17_view_of_tables T p q hp hq hsw h1 h2 hskip hsch
  exact ⟨sanitize_congr p q hv input, panics_congr p q hv input⟩

variable (d : Bytes → Bytes → Bool)

/-- the calls that add to a table (element, attribute and style rules, element and scheme
    patterns); every other call is switch-like -/
def isRuleOp : BuilderOp → Bool
  | .allowElements _ | .allowElementsMatching _ | .allowAttrs _ _ _ _ | .allowStyles _ _ _
  | .allowURLSchemesMatching _ => true
  | _ => false

def isSwitchLike (op : BuilderOp) : Bool := !isRuleOp op

theorem rule_switchlike (op : BuilderOp) (h : isSwitchLike op = false) :
    (∀ s, op.setSwitches s = s) ∧ (∀ el, op.setsSkip el = none) ∧ (∀ s st, op.setsScheme s st = st) := by
  cases op <;> first | exact ⟨fun _ => rfl, fun _ => rfl, fun _ _ => rfl⟩ | cases h

theorem switchlike_determines (p : Policy) (hi : p.initialized = true) (ops₁ ops₂ : List BuilderOp)
    (h : ops₁.filter isSwitchLike = ops₂.filter isSwitchLike) :
    (applyOps d p ops₁).switches = (applyOps d p ops₂).switches ∧
    (∀ el, (applyOps d p ops₁).setOfElementsToSkipContent.contains el =
           (applyOps d p ops₂).setOfElementsToSkipContent.contains el) ∧
    (∀ s, (applyOps d p ops₁).allowURLSchemes.get? s = (applyOps d p ops₂).allowURLSchemes.get? s) := by
  refine ⟨?_, ?_, ?_⟩
  · rw [switches_applyOps d p hi, switches_applyOps d p hi,
      foldl_filter_id _ isSwitchLike (fun a s ha => (rule_switchlike a ha).1 s) ops₁,
      foldl_filter_id _ isSwitchLike (fun a s ha => (rule_switchlike a ha).1 s) ops₂, h]
  · intro el
    have e1 := skips_applyOps d p hi ops₁ el
    have e2 := skips_applyOps d p hi ops₂ el
    unfold Policy.skips at e1 e2
    rw [e1, e2, findSome?_reverse_filter _ isSwitchLike (fun a ha => (rule_switchlike a ha).2.1 el) ops₁,
      findSome?_reverse_filter _ isSwitchLike (fun a ha => (rule_switchlike a ha).2.1 el) ops₂, h]
  · intro s
    rw [scheme_applyOps d p hi, scheme_applyOps d p hi,
      foldl_filter_id _ isSwitchLike (fun a st ha => (rule_switchlike a ha).2.2 s st) ops₁,
      foldl_filter_id _ isSwitchLike (fun a st ha => (rule_switchlike a ha).2.2 s st) ops₂, h]

/-- **C17 at the level of the output: a policy is its rule set.**  Two histories of builder calls
    on the same well-formed initialised policy (e.g. `NewPolicy()`) that make the same calls —
    as a *set*: any order, any repetition — and whose switch-like calls (booleans, skip / keep
    content, scheme registrations) come in the same order build policies that return the same
    bytes for every input.  (`patsOK T`: element and scheme patterns are keyed by regexp identity, and `T` gives
    the one test behind each identity.) -/
theorem C17_output_rule_set (T : Nat → Bytes → Bool) (p : Policy) (hi : p.initialized = true) (hw : p.WF T)
    (ops₁ ops₂ : List BuilderOp) (hp1 : ∀ op ∈ ops₁, op.patsOK T) (hp2 : ∀ op ∈ ops₂, op.patsOK T)
    (hrules : ∀ op, isRuleOp op = true → (op ∈ ops₁ ↔ op ∈ ops₂))
    (hsw : ops₁.filter isSwitchLike = ops₂.filter isSwitchLike) (input : Bytes) :
    (applyOps d p ops₁).sanitize input = (applyOps d p ops₂).sanitize input := by
  have hall : ∀ op, op ∈ ops₁ ↔ op ∈ ops₂ := by
    intro op
    cases hr : isRuleOp op with
    | true => exact hrules op hr
    | false =>
      -- a switch-like call is in a history iff it is among its switch-like calls
      have hs : isSwitchLike op = true := by rw [isSwitchLike, hr]; rfl
      have e (l : List BuilderOp) : op ∈ l ↔ op ∈ l.filter isSwitchLike := by
        rw [List.mem_filter, hs]; exact (and_iff_left rfl).symm
      rw [e ops₁, e ops₂, hsw]
  obtain ⟨h1, h2, h3⟩ := switchlike_determines d p hi ops₁ ops₂ hsw
  apply sanitize_congr
  rw [ensureInit_of_init _ (applyOps_initialized d p hi ops₁), ensureInit_of_init _ (applyOps_initialized d p hi ops₂)]
  exact C17_view_of_tables T _ _ (wf_applyOps T d p hi hw ops₁ hp1) (wf_applyOps T d p hi hw ops₂ hp2) h1
    (sameTables_of_same_calls d p hi ops₁ ops₂ hall) (sameTables2_of_same_calls d p hi ops₁ ops₂ hall) h2 h3

/-- **order independence of the output**: permuting a history without reordering its switch-like
    calls among themselves does not change a single byte of any output -/
theorem C17_output_order_independent (T : Nat → Bytes → Bool) (p : Policy) (hi : p.initialized = true) (hw : p.WF T)
    (ops₁ ops₂ : List BuilderOp) (hp1 : ∀ op ∈ ops₁, op.patsOK T) (hperm : ops₁.Perm ops₂)
    (hsw : ops₁.filter isSwitchLike = ops₂.filter isSwitchLike) (input : Bytes) :
    (applyOps d p ops₁).sanitize input = (applyOps d p ops₂).sanitize input :=
  C17_output_rule_set d T p hi hw ops₁ ops₂ hp1 (fun op h => hp1 op (hperm.mem_iff.mpr h))
    (fun _ _ => hperm.mem_iff) hsw input

/-- **repetition at the level of the output**: repeating rule-adding calls changes nothing -/
theorem C17_output_repetition (T : Nat → Bytes → Bool) (p : Policy) (hi : p.initialized = true) (hw : p.WF T)
    (rules sw : List BuilderOp) (hp : ∀ op ∈ rules ++ sw, op.patsOK T) (hr : ∀ op ∈ rules, isRuleOp op = true)
    (input : Bytes) :
    (applyOps d p (rules ++ sw ++ rules)).sanitize input = (applyOps d p (rules ++ sw)).sanitize input := by
  have hfr : rules.filter isSwitchLike = [] :=
    List.filter_eq_nil_iff.mpr fun a ha => by rw [isSwitchLike, hr a ha]; exact Bool.false_ne_true
  have hmem : ∀ op, op ∈ rules ++ sw ++ rules ↔ op ∈ rules ++ sw := fun op =>
    ⟨fun h => (List.mem_append.mp h).elim id (List.mem_append_left _), List.mem_append_left _⟩
  refine C17_output_rule_set d T p hi hw _ _ (fun op hop => hp op ((hmem op).mp hop)) hp (fun op _ => hmem op) ?_ input
  simp only [List.filter_append, hfr, List.append_nil]

/-- a builder call with every name respelled by `f`: element, attribute and property names of
    rules (`respell`), and also the names given to `SkipElementsContent`, `AllowElementsContent`,
    `AllowURLSchemes` and `AllowURLSchemeWithCustomPolicy` -/
def respellAll (f : Bytes → Bytes) : BuilderOp → BuilderOp
  | .skipElementsContent names => .skipElementsContent (names.map f)
  | .allowElementsContent names => .allowElementsContent (names.map f)
  | .allowURLSchemes names => .allowURLSchemes (names.map f)
  | .allowURLSchemeWithCustomPolicy s g => .allowURLSchemeWithCustomPolicy (f s) g
  | op => respell f op

theorem respellAll_rule (f : Bytes → Bytes) (op : BuilderOp) (h : isRuleOp op = true) : respellAll f op = respell f op := by
  cases op <;> first | rfl | (simp [isRuleOp] at h)

theorem respellAll_isRuleOp (f : Bytes → Bytes) (op : BuilderOp) : isRuleOp (respellAll f op) = isRuleOp op := by
  cases op with
  | allowAttrs names re ae scope => cases scope <;> rfl
  | allowStyles names m scope => cases scope <;> rfl
  | _ => rfl

theorem respellAll_patsOK (T : Nat → Bytes → Bool) (f : Bytes → Bytes) (op : BuilderOp) (h : op.patsOK T) :
    (respellAll f op).patsOK T := by
  cases op with
  | allowAttrs names re ae scope => cases scope <;> exact h
  | allowStyles names m scope => cases scope <;> exact h
  | _ => first | exact h | trivial

theorem respellAll_switchlike (f : Bytes → Bytes) (hf : ∀ n, toLowerName (f n) = toLowerName n) (op : BuilderOp) :
    (∀ s, (respellAll f op).setSwitches s = op.setSwitches s) ∧
    (∀ el, (respellAll f op).setsSkip el = op.setsSkip el) ∧
    (∀ s st, (respellAll f op).setsScheme s st = op.setsScheme s st) := by
  have hm := map_lower_respell f hf
  cases op
  case' allowAttrs names re ae scope => cases scope
  case' allowStyles names m scope => cases scope
  -- only the skip / keep and the scheme calls carry names that matter here
  case skipElementsContent names | allowElementsContent names =>
    exact ⟨fun _ => rfl, fun el => by simp only [respellAll, BuilderOp.setsSkip, hm], fun _ _ => rfl⟩
  case allowURLSchemes names =>
    exact ⟨fun _ => rfl, fun _ => rfl, fun s st => by simp only [respellAll, BuilderOp.setsScheme, hm]⟩
  case allowURLSchemeWithCustomPolicy sch g =>
    exact ⟨fun _ => rfl, fun _ => rfl, fun s st => by simp only [respellAll, BuilderOp.setsScheme, hf]⟩
  all_goals exact ⟨fun _ => rfl, fun _ => rfl, fun _ _ => rfl⟩

theorem respellAll_sameAdds (f : Bytes → Bytes) (hf : ∀ n, toLowerName (f n) = toLowerName n) (op : BuilderOp) :
    SameAdds d (respellAll f op) op := by
  cases hr : isRuleOp op with
  | true => rw [respellAll_rule f op hr]; exact respell_sameAdds d f hf op
  -- the other calls contribute nothing, respelled or not
  | false => intro t; cases op <;> first | (cases t <;> exact Iff.rfl) | cases hr

/-- **case independence of the output**: respelling every element, attribute, property and scheme
    name of a history by any `f` that `strings.ToLower` cannot tell from the identity (any mixture
    of upper and lower case) does not change a single byte of any output -/
theorem C17_output_case_independent (T : Nat → Bytes → Bool) (f : Bytes → Bytes)
    (hf : ∀ n, toLowerName (f n) = toLowerName n) (p : Policy) (hi : p.initialized = true) (hw : p.WF T)
    (ops : List BuilderOp) (hp : ∀ op ∈ ops, op.patsOK T) (input : Bytes) :
    (applyOps d p (ops.map (respellAll f))).sanitize input = (applyOps d p ops).sanitize input := by
  have hp' : ∀ op ∈ ops.map (respellAll f), op.patsOK T := by
    intro op hop
    obtain ⟨o, ho, rfl⟩ := List.mem_map.mp hop
    exact respellAll_patsOK T f o (hp o ho)
  have hT := sameTables_map d _ (respellAll_sameAdds d f hf) p hi ops
  have hfold : ∀ {γ : Type} (step : BuilderOp → γ → γ) (hs : ∀ op s, step (respellAll f op) s = step op s) (s : γ),
      (ops.map (respellAll f)).foldl (fun s op => step op s) s = ops.foldl (fun s op => step op s) s := by
    intro γ step hs s
    rw [List.foldl_map]
    congr 1
    funext s op
    exact hs op s
  apply sanitize_congr
  rw [ensureInit_of_init _ (applyOps_initialized d p hi _), ensureInit_of_init _ (applyOps_initialized d p hi _)]
  refine C17_view_of_tables T _ _ (wf_applyOps T d p hi hw _ hp') (wf_applyOps T d p hi hw ops hp) ?_ hT.1 hT.2 ?_ ?_
  · rw [switches_applyOps d p hi, switches_applyOps d p hi]
    exact hfold (fun op s => op.setSwitches s) (fun op s => (respellAll_switchlike f hf op).1 s) _
  · intro el
    have e1 := skips_applyOps d p hi (ops.map (respellAll f)) el
    have e2 := skips_applyOps d p hi ops el
    unfold Policy.skips at e1 e2
    rw [e1, e2, ← List.map_reverse, List.findSome?_map]
    congr 2
    funext op
    exact (respellAll_switchlike f hf op).2.1 el
  · intro s
    rw [scheme_applyOps d p hi, scheme_applyOps d p hi]
    exact hfold (fun op st => op.setsScheme s st) (fun op st => (respellAll_switchlike f hf op).2.2 s st) _

/-- non-vacuity, as far as it can be evaluated: the patterns of `h1` follow `T`, `h1` and `h2` — two orders and
    spellings of a history with a pattern rule, a switch and a skip setting — have the same switch-like calls in the
    same order, and the policy built from `h1` does something.  (`h1` names `B` where `h2` names `b`, so relating
    the two takes `C17_output_case_independent` together with `C17_output_rule_set`.) -/
example :
    let d : Bytes → Bytes → Bool := fun _ _ => false
    let r : Pat := ⟨1, fun s => s == b!"x-a"⟩
    let T : Nat → Bytes → Bool := fun _ s => s == b!"x-a"
    let h1 := [BuilderOp.allowAttrs [b!"ID"] none false (.onElementsMatching r), .allowElements [b!"B"],
               .requireNoFollowOnLinks true, .skipElementsContent [b!"B"], .allowElementsContent [b!"b"]]
    let h2 := [BuilderOp.requireNoFollowOnLinks true, .allowElements [b!"b"], .skipElementsContent [b!"B"],
               .allowAttrs [b!"ID"] none false (.onElementsMatching r), .allowElementsContent [b!"b"], .allowElements [b!"b"]]
    (∀ op ∈ h1, op.patsOK T) ∧ h1.filter isSwitchLike = h2.filter isSwitchLike ∧
    (applyOps d { initialized := true } h1).sanitize b!"<x-a id=1>t</x-a><i>u</i><B>v" = b!"<x-a id=\"1\">t</x-a>uv" := by
  refine ⟨?_, ?_, ?_⟩
  · intro op hop
    simp only [List.mem_cons, List.not_mem_nil, or_false] at hop
    rcases hop with rfl | rfl | rfl | rfl | rfl <;> simp [BuilderOp.patsOK]
  · rfl
  · decide

end BM.Props
