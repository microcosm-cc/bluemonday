import BM.Props.C10
import BM.Proofs.ViewTables
import BM.Proofs.WFBuild
import BM.Proofs.Tables
/-
  C10 for whole policies, by induction over builder histories: on any element, a declaration `sanitizeStyles`
  keeps has a property that some `AllowStyles(…)` call of the history names — for that element, through an element
  pattern that matches it, or globally — and the matcher that call installed accepts the lower-cased,
  escape-decoded value.  (`T` is the behaviour of the compiled element patterns, by identity.)
-/
namespace BM.Props
open BM BM.Html

/-- a style rule for `prop` installed by a call of the history that applies to element `el` -/
def StyleRuleByCall (T : Nat → Bytes → Bool) (d : Bytes → Bytes → Bool) (ops : List BuilderOp) (el prop : Bytes)
    (sp : StylePolicy) : Prop :=
  ∃ op ∈ ops, op.addsElemStyle d el prop sp ∨ op.addsGlobalStyle d prop sp ∨
    ∃ r : Pat, T r.id el = true ∧ op.addsMatchStyle d r prop sp

/-- **C10 traced back to the builder history**, for every policy built from one without rules (`NewPolicy()`
    with its default sets included) -/
theorem C10_built_from (T : Nat → Bytes → Bool) (d : Bytes → Bytes → Bool) {p0 : Policy} (h0 : p0.NoRules)
    (ops : List BuilderOp) (hpat : ∀ op ∈ ops, op.patsOK T) (el : Bytes) (dec : Css.Decl)
    (h : (applyOps d p0 ops).declAccepted ((applyOps d p0 ops).styleRulesFor el) dec = true) :
    ∃ tv, removeUnicode (toLowerGo dec.value) = some tv ∧
      ∃ sp, StyleRuleByCall T d ops el (trimPrefixes (toLowerGo dec.property) vendorPrefixes) sp ∧ okS sp tv = true := by
  obtain ⟨tv, htv, hacc⟩ := (declAccepted_iff _ _ dec).mp h
  refine ⟨tv, htv, ?_⟩
  -- the rule tables of the start policy are empty: a rule found in one was contributed by a call
  rcases hacc with ⟨sp, hsp, hok⟩ | ⟨sp, hsp, hok⟩
  · rcases (styleRulesFor_mem T _ (wf_built T d h0 ops hpat) el _ sp).mp hsp with ⟨_, hin⟩ | ⟨_, r, hr, hin⟩
    · obtain ⟨op, hop, ha⟩ := (h0.built d ops (.elemStyle el _ sp) nofun).mp hin
      exact ⟨sp, ⟨op, hop, .inl ha⟩, hok⟩
    · obtain ⟨op, hop, ha⟩ := (h0.built d ops (.matchStyle r _ sp) nofun).mp hin
      exact ⟨sp, ⟨op, hop, .inr (.inr ⟨r, hr, ha⟩)⟩, hok⟩
  · obtain ⟨op, hop, ha⟩ := (h0.built d ops (.globalStyle _ sp) nofun).mp hsp
    exact ⟨sp, ⟨op, hop, .inr (.inl ha)⟩, hok⟩

/-- **C10 traced back to the builder history**, from the empty initialised policy -/
theorem C10_built_policy (T : Nat → Bytes → Bool) (d : Bytes → Bytes → Bool) (ops : List BuilderOp)
    (hpat : ∀ op ∈ ops, op.patsOK T) (el : Bytes) (dec : Css.Decl)
    (h : (applyOps d { initialized := true } ops).declAccepted
          ((applyOps d { initialized := true } ops).styleRulesFor el) dec = true) :
    ∃ tv, removeUnicode (toLowerGo dec.value) = some tv ∧
      ∃ sp, StyleRuleByCall T d ops el (trimPrefixes (toLowerGo dec.property) vendorPrefixes) sp ∧ okS sp tv = true :=
  C10_built_from T d noRules_new ops hpat el dec h

end BM.Props
