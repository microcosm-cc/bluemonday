import BM.Props.C06
import BM.Props.SrcPin.C06
/- Top module of property C06, built by `./check C06`: its theorems with their source pin (Props/SrcPin/C06.lean). -/
