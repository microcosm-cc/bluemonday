import BM.Props.C09
import BM.Props.SrcPin.C09
/- Top module of property C09, built by `./check C09`: its theorems with their source pin (Props/SrcPin/C09.lean). -/
