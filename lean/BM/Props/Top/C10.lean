import BM.Props.C10b
import BM.Props.C10c
import BM.Props.SrcPin.C10
/- Top module of property C10, built by `./check C10`: its theorems with their source pin (Props/SrcPin/C10.lean). -/
