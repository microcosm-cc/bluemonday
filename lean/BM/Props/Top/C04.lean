import BM.Props.C04ugc
import BM.Props.C07c
import BM.Props.SrcPin.C04
/- Top module of property C04, built by `./check C04`: its theorems with their source pin (Props/SrcPin/C04.lean). -/
