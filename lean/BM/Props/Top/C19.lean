import BM.Props.C19
import BM.Props.C19c
import BM.Props.SrcPin.C19
/- Top module of property C19, built by `./check C19`: its theorems with their source pin (Props/SrcPin/C19.lean). -/
