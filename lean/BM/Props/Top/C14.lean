import BM.Props.C14
import BM.Props.SrcPin.C14
/- Top module of property C14, built by `./check C14`: its theorems with their source pin (Props/SrcPin/C14.lean). -/
