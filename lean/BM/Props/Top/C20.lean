import BM.Props.C20f
import BM.Props.SrcPin.C20
/- Top module of property C20, built by `./check C20`: its theorems with their source pin (Props/SrcPin/C20.lean). -/
