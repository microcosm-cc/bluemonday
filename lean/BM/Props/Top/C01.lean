import BM.Props.C01
import BM.Props.C01c
import BM.Props.SrcPin.C01
/- Top module of property C01, built by `./check C01`: its theorems with their source pin (Props/SrcPin/C01.lean). -/
