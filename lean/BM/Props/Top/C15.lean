import BM.Props.C15
import BM.Props.SrcPin.C15
/- Top module of property C15, built by `./check C15`: its theorems with their source pin (Props/SrcPin/C15.lean). -/
