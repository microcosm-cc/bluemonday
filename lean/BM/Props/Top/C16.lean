import BM.Props.C16
import BM.Props.SrcPin.C16
/- Top module of property C16, built by `./check C16`: its theorems with their source pin (Props/SrcPin/C16.lean). -/
