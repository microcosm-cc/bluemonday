import BM.Props.C07
import BM.Props.C07b
import BM.Props.C07c
import BM.Props.SrcPin.C07
/- Top module of property C07, built by `./check C07`: its theorems with their source pin (Props/SrcPin/C07.lean). -/
