import BM.Props.C02
import BM.Props.C02c
import BM.Props.SrcPin.C02
/- Top module of property C02, built by `./check C02`: its theorems with their source pin (Props/SrcPin/C02.lean). -/
