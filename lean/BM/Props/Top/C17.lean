import BM.Props.C17b
import BM.Props.SrcPin.C17
/- Top module of property C17, built by `./check C17`: its theorems with their source pin (Props/SrcPin/C17.lean). -/
