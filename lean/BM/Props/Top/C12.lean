import BM.Props.C12
import BM.Props.SrcPin.C12
/- Top module of property C12, built by `./check C12`: its theorems with their source pin (Props/SrcPin/C12.lean). -/
