import BM.Props.C18c
import BM.Props.SrcPin.C18
/- Top module of property C18, built by `./check C18`: its theorems with their source pin (Props/SrcPin/C18.lean). -/
