import BM.Props.C08
import BM.Props.SrcPin.C08
/- Top module of property C08, built by `./check C08`: its theorems with their source pin (Props/SrcPin/C08.lean). -/
