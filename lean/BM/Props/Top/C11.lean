import BM.Props.C11b
import BM.Proofs.HardenGo
import BM.Props.C20e
import BM.Props.SrcPin.C11
/- Top module of property C11, built by `./check C11`: its theorems with their source pin (Props/SrcPin/C11.lean). -/
