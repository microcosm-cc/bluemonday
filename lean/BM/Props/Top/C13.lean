import BM.Props.C13
import BM.Props.SrcPin.C13
/- Top module of property C13, built by `./check C13`: its theorems with their source pin (Props/SrcPin/C13.lean). -/
