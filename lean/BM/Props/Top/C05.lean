import BM.Props.C05
import BM.Props.SrcPin.C05
/- Top module of property C05, built by `./check C05`: its theorems with their source pin (Props/SrcPin/C05.lean). -/
