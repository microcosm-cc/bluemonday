import BM.Props.C03c
import BM.Props.SrcPin.C03
/- Top module of property C03, built by `./check C03`: its theorems with their source pin (Props/SrcPin/C03.lean). -/
