import BM.Props.C19
import BM.Proofs.RegexWords
/-
  C19, "accepts only strings of its documented form", for the eleven matchers of helpers.go.  For the five keyword
  matchers the documented form is a word list: a value is accepted only if it spells one of the documented words,
  letter by letter, up to the case folding `(?i)` stands for (which adds U+017F to `s` and U+212A to `k`: the
  known finding of this property).  The statements are about the syntax trees regenerated from helpers.go on
  every run; for the loop-free ones (keywords, ISO8601) the class words are computed by `Re.cwords` and compared
  with the documented words or shapes by the kernel, the others are taken apart by hand.
-/
namespace BM.Props
open BM BM.Re

/-- the runes `(?i)` lets stand for the ASCII letter `x` (Go's simple case folding) -/
def foldOrbit (x : Rune) : List Rune :=
  (if 97 ≤ x && x ≤ 122 then [x, x - 32] else if 65 ≤ x && x ≤ 90 then [x, x + 32] else [x]) ++
  (if x == 115 || x == 83 then [0x17F] else []) ++ (if x == 107 || x == 75 then [0x212A] else [])

/-- `s` spells the word `d` up to case folding -/
def foldSpells (s d : List Rune) : Bool :=
  s.length == d.length && (s.zip d).all fun cx => (foldOrbit cx.2).contains cx.1

def classRunes (rs : List (Rune × Rune)) : List Rune :=
  rs.flatMap fun lohi => (List.range (lohi.2 - lohi.1 + 1)).map (lohi.1 + ·)

theorem mem_classRunes (rs : List (Rune × Rune)) (c : Rune) (hc : inRanges c rs = true) : c ∈ classRunes rs := by
  obtain ⟨r, hr, h1, h2⟩ := inRanges_iff.mp hc
  -- stated for `Nat`: `omega` does not look through `Rune`
  have key : ∀ lo hi c : Nat, lo ≤ c → c ≤ hi → c - lo < hi - lo + 1 ∧ lo + (c - lo) = c := by omega
  exact List.mem_flatMap.mpr ⟨r, hr, List.mem_map.mpr ⟨c - r.1, List.mem_range.mpr (key _ _ _ h1 h2).1, (key _ _ _ h1 h2).2⟩⟩

/-- the documented words that are still possible after a rune: those whose next letter it folds to -/
def stepDocs (docs : List (List Rune)) (c : Rune) : List (List Rune) :=
  docs.filterMap fun d => match d with
    | x :: d' => if (foldOrbit x).contains c then some d' else none
    | [] => none

/-- every rune word the class word stands for spells one of the documented words -/
def covered : CWord → List (List Rune) → Bool
  | [], docs => docs.contains []
  | rs :: w, docs => (classRunes rs).all fun c => covered w (stepDocs docs c)

theorem foldSpells_of_covered (w : CWord) (s : List Rune) (docs : List (List Rune)) (hf : fits s w = true)
    (hc : covered w docs = true) : ∃ d ∈ docs, foldSpells s d = true := by
  fun_induction fits s w generalizing docs with
  | case1 => exact ⟨[], List.contains_iff_mem.mp hc, rfl⟩
  | case2 c cs rs w ih =>
    rw [Bool.and_eq_true] at hf
    rw [covered, List.all_eq_true] at hc
    obtain ⟨d', hd', hsp⟩ := ih (stepDocs docs c) hf.2 (hc c (mem_classRunes rs c hf.1))
    -- `d'` is what is left of a documented word `x :: d'` whose first letter folds to `c`
    obtain ⟨d, hd, hdd⟩ := List.mem_filterMap.mp hd'
    cases d with
    | nil => cases hdd
    | cons x d'' =>
      simp only [Option.ite_none_right_eq_some, Option.some.injEq] at hdd
      obtain ⟨hx, rfl⟩ := hdd
      refine ⟨x :: d'', hd, ?_⟩
      simp only [foldSpells, Bool.and_eq_true, beq_iff_eq] at hsp
      simp only [foldSpells, List.length_cons, List.zip_cons_cons, List.all_cons, Bool.and_eq_true, beq_iff_eq,
        Nat.add_right_cancel_iff]
      exact ⟨hsp.1, hx, hsp.2⟩
  | case3 => cases hf

/-- every rune word that a class word of `r` stands for spells one of the documented words -/
def formOK (r : Re) (docs : List (List Rune)) : Bool :=
  match cwords r with
  | some ws => ws.all fun w => covered w docs
  | Option.none => false

/-- **the documented form of a keyword matcher**: an accepted value spells one of the documented words -/
theorem keyword_form (r : Re) (docs : List (List Rune)) (ha : anchoredBoth r = true) (hf : formOK r docs = true)
    (v : Bytes) (h : Re.matchBytes r v = true) : ∃ d ∈ docs, foldSpells (decodeRunes v) d = true := by
  unfold formOK at hf
  split at hf
  · obtain ⟨w, hw, hfit⟩ := search_cwords ha ‹_› h
    exact foldSpells_of_covered w _ docs hfit (List.all_eq_true.mp hf w hw)
  · cases hf

/-- position by position, the class word `w` stays within the folding of the word `d` -/
def wordWithin : CWord → List Rune → Bool
  | [], [] => true
  | rs :: w, x :: d => (classRunes rs).all (foldOrbit x).contains && wordWithin w d
  | _, _ => false

theorem covered_of_wordWithin : ∀ (w : CWord) (d : List Rune) (docs : List (List Rune)), d ∈ docs →
    wordWithin w d = true → covered w docs = true
  | [], [], docs, hd, _ => List.contains_iff_mem.mpr hd
  | rs :: w, x :: d, docs, hd, h => by
    rw [wordWithin, Bool.and_eq_true, List.all_eq_true] at h
    rw [covered, List.all_eq_true]
    intro c hc
    have hstep : d ∈ stepDocs docs c := List.mem_filterMap.mpr ⟨x :: d, hd, by simp only [h.1 c hc, ↓reduceIte]⟩
    exact covered_of_wordWithin w d _ hstep h.2

/-- `formOK` decided word by word: a class word that lies within one documented word is compared with
    that word alone (`covered` spells out every rune word, 2⁸·3 of them for `absmiddle`); `covered` is
    left for a class word that several documented words share, like the `[1AIai]` of ListType -/
def formCheck (r : Re) (docs : List (List Rune)) : Bool :=
  match cwords r with
  | some ws => ws.all fun w => docs.any (wordWithin w) || covered w docs
  | Option.none => false

theorem formOK_of_check {r : Re} {docs : List (List Rune)} (h : formCheck r docs = true) : formOK r docs = true := by
  unfold formCheck at h
  unfold formOK
  cases hws : cwords r with
  | none => rw [hws] at h; cases h
  | some ws =>
    rw [hws] at h
    refine List.all_eq_true.mpr fun w hw => ?_
    rcases Bool.or_eq_true_iff.mp (List.all_eq_true.mp h w hw) with hany | hcov
    · obtain ⟨d, hd, hwd⟩ := List.any_eq_true.mp hany
      exact covered_of_wordWithin w d docs hd hwd
    · exact hcov

def runes (s : Bytes) : List Rune := s.map (·.toNat)

def docCellAlign : List (List Rune) := [b!"center", b!"justify", b!"left", b!"right", b!"char"].map runes
def docCellVerticalAlign : List (List Rune) := [b!"baseline", b!"bottom", b!"middle", b!"top"].map runes
def docDirection : List (List Rune) := [b!"rtl", b!"ltr"].map runes
def docImageAlign : List (List Rune) :=
  [b!"left", b!"right", b!"top", b!"texttop", b!"middle", b!"absmiddle", b!"baseline", b!"bottom", b!"absbottom"].map runes
def docListType : List (List Rune) := [b!"circle", b!"disc", b!"square", b!"a", b!"i", b!"1"].map runes

theorem CellAlign_form (v : Bytes) (h : Re.matchBytes Gen.patCellAlign v = true) :
    ∃ d ∈ docCellAlign, foldSpells (decodeRunes v) d = true :=
  keyword_form _ _ (by decide +kernel) (formOK_of_check (by decide +kernel)) v h

theorem CellVerticalAlign_form (v : Bytes) (h : Re.matchBytes Gen.patCellVerticalAlign v = true) :
    ∃ d ∈ docCellVerticalAlign, foldSpells (decodeRunes v) d = true :=
  keyword_form _ _ (by decide +kernel) (formOK_of_check (by decide +kernel)) v h

theorem Direction_form (v : Bytes) (h : Re.matchBytes Gen.patDirection v = true) :
    ∃ d ∈ docDirection, foldSpells (decodeRunes v) d = true :=
  keyword_form _ _ (by decide +kernel) (formOK_of_check (by decide +kernel)) v h

theorem ImageAlign_form (v : Bytes) (h : Re.matchBytes Gen.patImageAlign v = true) :
    ∃ d ∈ docImageAlign, foldSpells (decodeRunes v) d = true :=
  keyword_form _ _ (by decide +kernel) (formOK_of_check (by decide +kernel)) v h

theorem ListType_form (v : Bytes) (h : Re.matchBytes Gen.patListType v = true) :
    ∃ d ∈ docListType, foldSpells (decodeRunes v) d = true :=
  keyword_form _ _ (by decide +kernel) (formOK_of_check (by decide +kernel)) v h

/-- non-vacuity and sharpness: `Justify` spells a documented word, `juſtify` does too (the known
    finding), `centre` does not -/
example : foldSpells (runes b!"Justify") (runes b!"justify") = true ∧
    foldSpells [106, 117, 0x17F, 116, 105, 102, 121] (runes b!"justify") = true ∧
    docCellAlign.all (fun d => !foldSpells (runes b!"centre") d) = true := by decide +kernel

def isDigitRune (c : Rune) : Bool := decide (48 ≤ c ∧ c ≤ 57)

theorem digits_all (l : List Rune) (h : ∀ x ∈ l, inRanges x [(48, 57)] = true) : l.all isDigitRune = true :=
  List.all_eq_true.mpr fun x hx => by simpa [inRanges, isDigitRune] using h x hx

/-- **Integer**: an accepted value is a non-empty run of ASCII digits -/
theorem Integer_form (v : Bytes) (h : Re.matchBytes Gen.patInteger v = true) :
    decodeRunes v ≠ [] ∧ (decodeRunes v).all isDigitRune = true :=
  (search_plus_cls_iff.mp h).imp id (digits_all _)

/-- **NumberOrPercent**: a non-empty run of ASCII digits, optionally followed by one `%` -/
theorem NumberOrPercent_form (v : Bytes) (h : Re.matchBytes Gen.patNumberOrPercent v = true) :
    ∃ ds, ds ≠ [] ∧ ds.all isDigitRune = true ∧ (decodeRunes v = ds ∨ decodeRunes v = ds ++ [37]) := by
  obtain ⟨p', hm⟩ := (search_anchored Gen.patNumberOrPercent (by decide) (decodeRunes v)).mp h
  generalize decodeRunes v = s at hm ⊢
  simp only [Gen.patNumberOrPercent, Matches.cat_iff, Matches.bot_iff, Matches.eot_iff] at hm
  obtain ⟨_, _, ⟨-, rfl, rfl⟩, _, s1, mdigits, _, s2, mpct, rfl, -, -⟩ := hm
  obtain ⟨ds, rfl, hne, hds⟩ := plus_cls_run mdigits
  obtain ⟨pct, rfl, hpct⟩ := quest_cls mpct
  refine ⟨ds, hne, digits_all ds hds, ?_⟩
  simpa [inRanges_cons_point, inRanges_nil] using hpct

/-- every class of `w` lies within the class of `w'` at the same position -/
def cwordSub (w w' : CWord) : Bool :=
  w.length == w'.length && (w.zip w').all fun rr => (classRunes rr.1).all fun c => inRanges c rr.2

theorem fits_of_sub (s : List Rune) (w w' : CWord) (hf : fits s w = true) (hs : cwordSub w w' = true) :
    fits s w' = true := by
  fun_induction fits s w generalizing w' with
  | case1 =>
    cases w' with
    | nil => rfl
    | cons _ _ => cases hs
  | case2 c cs rs w ih =>
    cases w' with
    | nil => cases hs
    | cons rs' w' =>
      simp only [cwordSub, List.length_cons, List.zip_cons_cons, List.all_cons, Bool.and_eq_true, beq_iff_eq,
        Nat.add_right_cancel_iff] at hs
      rw [Bool.and_eq_true] at hf
      rw [fits, List.all_eq_true.mp hs.2.1 c (mem_classRunes rs c hf.1), ih w' hf.2, Bool.and_self]
      rw [cwordSub, Bool.and_eq_true, beq_iff_eq]
      exact ⟨hs.1, hs.2.2⟩
  | case3 => cases hf

def dg : List (Rune × Rune) := [(48, 57)]
def ch (c : Rune) : List (Rune × Rune) := [(c, c)]

/-- `YYYY`, `YYYY-MM`, `YYYY-MM-DD`, and `YYYY-MM-DD(T| )hh:mm[:ss][.f{1,6}][Z][(+|-)hh:mm]`, as class words -/
def isoShapes : List CWord :=
  let year : CWord := [dg, dg, dg, dg]
  let month : CWord := year ++ [ch 45, dg, dg]
  let day : CWord := month ++ [ch 45, dg, dg]
  let hm : CWord := day ++ [[(32, 32), (84, 84)], dg, dg, ch 58, dg, dg]
  let secs : List CWord := [[], [ch 58, dg, dg]]
  let fracs : List CWord := [[]] ++ (List.range 6).map fun n => ch 46 :: List.replicate (n + 1) dg
  let zs : List CWord := [[], [ch 90]]
  let tzs : List CWord := [[], [[(43, 43), (45, 45)], dg, dg, ch 58, dg, dg]]
  [year, month, day] ++
    secs.flatMap fun a => fracs.flatMap fun b => zs.flatMap fun c => tzs.map fun d => hm ++ a ++ b ++ c ++ d

/-- every class word of the expression lies within one of the shapes -/
def shapesOK (r : Re) (shapes : List CWord) : Bool :=
  match cwords r with
  | some ws => ws.all fun w => shapes.any fun w' => cwordSub w w'
  | Option.none => false

theorem shape_form (r : Re) (shapes : List CWord) (ha : anchoredBoth r = true) (hf : shapesOK r shapes = true)
    (v : Bytes) (h : Re.matchBytes r v = true) : ∃ w ∈ shapes, fits (decodeRunes v) w = true := by
  unfold shapesOK at hf
  split at hf
  · obtain ⟨w, hw, hfit⟩ := search_cwords ha ‹_› h
    obtain ⟨w', hw', hsub⟩ := List.any_eq_true.mp (List.all_eq_true.mp hf w hw)
    exact ⟨w', hw', fits_of_sub _ w w' hfit hsub⟩
  · cases hf

/-- **ISO8601**: an accepted value has one of the shapes of the W3C date-time note -/
theorem ISO8601_form (v : Bytes) (h : Re.matchBytes Gen.patISO8601 v = true) :
    ∃ w ∈ isoShapes, fits (decodeRunes v) w = true :=
  shape_form _ _ (by decide +kernel) (by decide +kernel) v h

example : isoShapes.length = 59 ∧ isoShapes.any (fits (runes b!"2024-02-29T12:30:05.123Z")) = true ∧
    isoShapes.any (fits (runes b!"2024-02-29T12:30<")) = false := by decide +kernel

/-- a floating-point literal: sign, digits, point, digits, exponent -/
def NumberForm (s : List Rune) : Prop :=
  ∃ sign int dot frac exp, s = sign ++ int ++ dot ++ frac ++ exp ∧
    (sign = [] ∨ sign = [43] ∨ sign = [45]) ∧ int.all isDigitRune = true ∧ (dot = [] ∨ dot = [46]) ∧
    frac ≠ [] ∧ frac.all isDigitRune = true ∧
    (exp = [] ∨ ∃ e esign ed, exp = e :: esign ++ ed ∧ (e = 69 ∨ e = 101) ∧ (esign = [] ∨ esign = [43] ∨ esign = [45]) ∧
      ed ≠ [] ∧ ed.all isDigitRune = true)

theorem quest_sign {p s p' s'} (h : Matches (.quest (.cls [(43, 43), (45, 45)])) p s p' s') :
    ∃ sg, s = sg ++ s' ∧ (sg = [] ∨ sg = [43] ∨ sg = [45]) := by
  obtain ⟨sg, hs, hsg⟩ := quest_cls h
  exact ⟨sg, hs, by simpa [inRanges_cons_point, inRanges_nil] using hsg⟩

/-- **Number**: an accepted value is a floating-point literal of that shape -/
theorem Number_form (v : Bytes) (h : Re.matchBytes Gen.patNumber v = true) : NumberForm (decodeRunes v) := by
  obtain ⟨p', hm⟩ := (search_anchored Gen.patNumber (by decide) (decodeRunes v)).mp h
  generalize decodeRunes v = s at hm ⊢
  -- `^ sign? digits* point? digits+ exponent? $`: one stretch of the input for each factor
  simp only [Gen.patNumber, Matches.cat_iff, Matches.bot_iff, Matches.eot_iff] at hm
  obtain ⟨_, _, ⟨-, rfl, rfl⟩, _, s1, msign, _, s2, mint, _, s3, mdot, _, s4, mfrac, _, s5, mexp, rfl, -, -⟩ := hm
  obtain ⟨sign, rfl, hsign⟩ := quest_sign msign
  obtain ⟨int, rfl, hint⟩ := star_cls mint rfl
  obtain ⟨dot, rfl, hdot⟩ := quest_cls mdot
  obtain ⟨frac, rfl, hne, hfrac⟩ := plus_cls_run mfrac
  refine ⟨sign, int, dot, frac, s4, by simp, hsign, digits_all _ hint,
    by simpa [inRanges_cons_point, inRanges_nil] using hdot, hne, digits_all _ hfrac, ?_⟩
  rcases Matches.quest_iff.mp mexp with ⟨-, rfl⟩ | mexp
  · exact .inl rfl
  · simp only [Matches.cat_iff, Matches.cls_iff] at mexp
    obtain ⟨_, _, ⟨e, rfl, he, -⟩, _, t2, mes, med⟩ := mexp
    obtain ⟨esign, rfl, hes⟩ := quest_sign mes
    obtain ⟨ed, rfl, hne, hed⟩ := plus_cls_run med
    exact .inr ⟨e, esign, ed, by simp, by simpa [inRanges_cons_point, inRanges_nil] using he, hes, hne, digits_all _ hed⟩

/-- **SpaceSeparatedTokens**: one or more characters of the class the expression names (white space,
    letters, numbers, `_`, `-`; the class is the regenerated one and is within `tokensA`) -/
theorem SpaceSeparatedTokens_form (v : Bytes) (h : Re.matchBytes Gen.patSpaceSeparatedTokens v = true) :
    ∃ rs, Gen.patSpaceSeparatedTokens = .cat .bot (.cat (.plus (.cls rs)) .eot) ∧ decodeRunes v ≠ [] ∧
      ∀ c ∈ decodeRunes v, inRanges c rs = true :=
  ⟨_, rfl, search_plus_cls_iff.mp h⟩

/-- **Paragraph**: zero or more characters of the class the expression names -/
theorem Paragraph_form (v : Bytes) (h : Re.matchBytes Gen.patParagraph v = true) :
    ∃ rs, Gen.patParagraph = .cat .bot (.cat (.star (.cls rs)) .eot) ∧ ∀ c ∈ decodeRunes v, inRanges c rs = true :=
  ⟨_, rfl, search_star_cls_iff.mp h⟩

end BM.Props
