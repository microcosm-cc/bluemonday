import BM.Props.C20f
/-
  C07 with link options: "returned byte for byte, except for attributes the policy instructs the sanitiser to add
  or rewrite" — so a document that already carries what the policy would add is returned byte for byte.  For a
  policy with link options (no styles, forced crossorigin / sandbox, rewriter): a tag whose attributes the rules
  accept, whose URL values are already in the form `validURL` returns, and whose attribute list the hardening block
  leaves alone (`Hardened`: the rel tokens and the target it would add are there) is a fixed point of
  `sanitizeAttrs` (`sanitizeAttrs_fixed`), hence conforming (`conform_of_hardened`), hence — `C07_bytes` — a
  document of such tags is returned unchanged.  Instantiated on UGCPolicy it is the converse half of C04:
  a document in the UGC vocabulary that carries `rel="nofollow"` on its links passes through unchanged
  (`C04_ugc_conforming_unchanged`).
-/
namespace BM.Props
open BM BM.Html BM.Spec

/-- the general form: the list is what the rules accept (`u`, URL values in normal form) followed by what the
    hardening block appends to it (`E`, which the rules do not accept — so the next pass strips it and the block
    appends it again) -/
theorem sanitizeAttrs_fixed_appended (p : Policy) (el : Bytes) (h1 : p.hasStylePolicies el = false)
    (h2 : p.requireCrossOriginAnonymous = false) (h3 : p.requireSandboxOnIFrame = none)
    (u E : List Attr) (aps : AttrRules)
    (hacc : ∀ a ∈ u, (p.filterAttr el aps false a).isSome = true)
    (hE : ∀ a ∈ E, (p.filterAttr el aps false a).isSome = false)
    (hurl : p.requireParseableURLs = true → ∀ a ∈ u, p.urlPassAttr el a = some (some a))
    (hout : (if ((p.requireNoFollow || p.requireNoFollowFullyQualifiedLinks || p.requireNoReferrer ||
        p.requireNoReferrerFullyQualifiedLinks || p.addTargetBlankToFullyQualifiedLinks) &&
        decide (u.length > 0) && isHrefElement el) = true then p.hardenLinks el u else u) = u ++ E) :
    p.sanitizeAttrs el (u ++ E) aps = some (u ++ E) := by
  have hf : (u ++ E).filter (fun a => (p.filterAttr el aps false a).isSome) = u := by
    rw [List.filter_append, List.filter_eq_self.mpr hacc,
      List.filter_eq_nil_iff.mpr (fun a ha => by simp [hE a ha]), List.append_nil]
  refine sanitizeAttrs_fixed_of p el h1 h2 h3 (u ++ E) aps ?_ ?_
  · rw [hf]; exact hurl
  · rw [hf]; exact hout

/-- accepted by the rules, URL values in normal form, nothing for the hardening block to do ⇒ fixed point -/
theorem sanitizeAttrs_fixed (p : Policy) (el : Bytes) (h1 : p.hasStylePolicies el = false)
    (h2 : p.requireCrossOriginAnonymous = false) (h3 : p.requireSandboxOnIFrame = none)
    (attrs : List Attr) (aps : AttrRules)
    (hacc : ∀ a ∈ attrs, (p.filterAttr el aps false a).isSome = true)
    (hurl : p.requireParseableURLs = true → ∀ a ∈ attrs, p.urlPassAttr el a = some (some a))
    (hhard : p.hardenLinks el attrs = attrs) :
    p.sanitizeAttrs el attrs aps = some attrs := by
  have := sanitizeAttrs_fixed_appended p el h1 h2 h3 attrs [] aps hacc (by simp) hurl (by simp [hhard])
  rwa [List.append_nil] at this

/-- the hardening block leaves a list without href alone, and a hardened list alone -/
theorem hardenLinks_fixed (p : Policy) (el : Bytes) (attrs : List Attr)
    (h : (attrs.filter (·.key == b!"href")).isEmpty = false →
      Hardened (el == b!"a") (p.requireNoFollow || (extOf attrs && p.requireNoFollowFullyQualifiedLinks))
        (p.requireNoReferrer || (extOf attrs && p.requireNoReferrerFullyQualifiedLinks))
        (extOf attrs && p.addTargetBlankToFullyQualifiedLinks) attrs) :
    p.hardenLinks el attrs = attrs := by
  rw [hardenLinks_core]
  split
  · rfl
  · rename_i he
    exact hardenCore_fixed _ _ _ _ attrs (h (by simpa using he))

theorem conform_of_hardened (p : Policy) (t : Token) (hseg : SegOK t) (htt : t.tt = .start ∨ t.tt = .selfClosing)
    (hss : isScriptOrStyle t.data = false) (h1 : p.hasStylePolicies t.data = false)
    (h2 : p.requireCrossOriginAnonymous = false) (h3 : p.requireSandboxOnIFrame = none) (aps : AttrRules)
    (haps : p.attrRulesFor t.data = some aps)
    (hacc : ∀ a ∈ t.attrs, (p.filterAttr t.data aps false a).isSome = true)
    (hurl : p.requireParseableURLs = true → ∀ a ∈ t.attrs, p.urlPassAttr t.data a = some (some a))
    (hhard : p.hardenLinks t.data t.attrs = t.attrs)
    (hbare : t.attrs ≠ [] ∨ p.allowNoAttrs t.data = true) : Conform p t :=
  conform_open htt hseg hss haps
    (by rw [cleanAttrs_eq]; exact sanitizeAttrs_fixed p t.data h1 h2 h3 t.attrs aps hacc hurl hhard) hbare

/-- a start or self-closing tag written in the UGC vocabulary with valid values, carrying what UGCPolicy adds: its
    attribute list is `u ++ E`, where the regenerated rules accept every attribute of `u` for the element, the URL
    values in `u` are in the form the URL check returns, and `E` is exactly what UGCPolicy's link hardening appends to
    `u` (nothing, or `rel="nofollow"` where the rules do not let rel through: `a`, `link`; on `area`, where they do,
    the rel attribute with the token is part of `u` and `E` is empty) -/
def UgcTag (t : Token) : Prop :=
  isScriptOrStyle t.data = false ∧
  ∃ aps u E, t.attrs = u ++ E ∧ Gen.ugcPolicy.attrRulesFor t.data = some aps ∧
    (∀ a ∈ u, (Gen.ugcPolicy.filterAttr t.data aps false a).isSome = true) ∧
    (∀ a ∈ E, (Gen.ugcPolicy.filterAttr t.data aps false a).isSome = false) ∧
    (∀ a ∈ u, Gen.ugcPolicy.urlPassAttr t.data a = some (some a)) ∧
    (if (decide (u.length > 0) && isHrefElement t.data) = true then Gen.ugcPolicy.hardenLinks t.data u else u) = u ++ E ∧
    (t.attrs ≠ [] ∨ Gen.ugcPolicy.allowNoAttrs t.data = true)

/-- a token of a document "written entirely in that vocabulary with valid values" -/
def UgcDocToken (t : Token) : Prop :=
  SegOK t ∧
  match t.tt with
  | .text => True
  | .start => UgcTag t
  | .selfClosing => UgcTag t
  | .end_ => isScriptOrStyle t.data = false ∧
      (Gen.ugcPolicy.explicitEl t.data = true ∨ Gen.ugcPolicy.patternEl t.data = true)
  | .comment => False
  | .doctype => False

theorem ugc_conform (t : Token) (h : UgcDocToken t) : Conform Gen.ugcPolicy t := by
  obtain ⟨hseg, hrest⟩ := h
  have tag : (t.tt = .start ∨ t.tt = .selfClosing) → UgcTag t → Conform Gen.ugcPolicy t := by
    intro htt ⟨hss, aps, u, E, hattrs, haps, hacc, hE, hurl, hout, hbare⟩
    refine conform_open htt hseg hss haps ?_ hbare
    rw [cleanAttrs_eq, hattrs]
    refine sanitizeAttrs_fixed_appended Gen.ugcPolicy t.data (ugc_noStyle _) ugc_switches.2.2.2.2.2.1
      ugc_switches.2.2.2.2.2.2.1 u E aps hacc hE (fun _ => hurl) ?_
    simpa [ugc_flags.1] using hout
  cases htt : t.tt with
  | text => exact ⟨hseg, by simp only [htt]⟩
  | start => rw [htt] at hrest; exact tag (.inl htt) hrest
  | selfClosing => rw [htt] at hrest; exact tag (.inr htt) hrest
  | end_ => rw [htt] at hrest; exact ⟨hseg, by simp only [htt]; exact hrest⟩
  | comment => rw [htt] at hrest; exact hrest.elim
  | doctype => rw [htt] at hrest; exact hrest.elim

/-- **C04, the converse half**: a document written entirely in the UGC vocabulary with valid values — every tag an
    element UGCPolicy allows, every attribute accepted by its rules for that element, every URL in the form the
    URL check returns, followed by the `rel="nofollow"` that UGCPolicy appends to a link (`UgcTag`) — in canonical
    serialisation is returned by UGCPolicy byte for byte.  (For a document without the `rel="nofollow"`, the first
    pass adds it — C11 — and the result is a document of this kind: `C20_ugc`.) -/
theorem C04_ugc_conforming_unchanged (toks : List Token) (h : ∀ t ∈ toks, UgcDocToken t) :
    Gen.ugcPolicy.sanitizeCore (renderAll toks) = renderAll toks := by
  apply C07_bytes Gen.ugcPolicy toks
  intro t ht
  rw [ugc_init]
  exact ugc_conform t (h t ht)


/-- the hypotheses are met by a link: `<a href="http://x.com/" rel="nofollow">` is `u ++ E` with `u` the href the
    rules accept and `E` the rel attribute UGCPolicy appends (and does not accept from the input) -/
example : UgcDocToken ⟨.start, b!"a", [⟨b!"href", b!"http://x.com/"⟩, ⟨b!"rel", b!"nofollow"⟩]⟩ := by
  refine ⟨?_, ?_⟩
  · unfold SegOK
    simp only
    refine ⟨⟨97, [], rfl, by decide, by simp⟩, by decide, ?_⟩
    intro a ha
    simp only [List.mem_cons, List.not_mem_nil, or_false] at ha
    rcases ha with rfl | rfl
    · exact ⟨104, b!"ref", rfl, by decide, by decide⟩
    · exact ⟨114, b!"el", rfl, by decide, by decide⟩
  show UgcTag _
  refine ⟨by decide, (Gen.ugcPolicy.elsAndAttrs.get? b!"a").getD [], [⟨b!"href", b!"http://x.com/"⟩],
    [⟨b!"rel", b!"nofollow"⟩], rfl, attrRulesFor_of_get? (eq_some_getD [] (by decide +kernel)), ?_, ?_, ?_,
    by decide +kernel, .inl (by decide)⟩
  · intro a ha; simp at ha; subst ha; decide +kernel
  · intro a ha; simp at ha; subst ha; decide +kernel
  · intro a ha; simp at ha; subst ha; decide +kernel

/-- a document of this kind, and one without the rel (tests, not the unbounded claim) -/
example :
    Gen.ugcPolicy.sanitizeCore b!"<p>x <a href=\"http://x.com/\" rel=\"nofollow\">t</a> <img src=\"/i.png\" alt=\"i\"></p>" =
      b!"<p>x <a href=\"http://x.com/\" rel=\"nofollow\">t</a> <img src=\"/i.png\" alt=\"i\"></p>" ∧
    Gen.ugcPolicy.sanitizeCore b!"<a href=\"http://x.com/\">t</a>" = b!"<a href=\"http://x.com/\" rel=\"nofollow\">t</a>" := by
  decide +kernel

end BM.Props
