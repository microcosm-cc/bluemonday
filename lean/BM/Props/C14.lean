import BM.Proofs.Step
import BM.Props.Pins
import BM.Proofs.RecCheck
import BM.Proofs.TokWF
/-
  C14 (no panic): for every policy and every token sequence the loop never reaches one of
  the partial operations of the Go code:
  * `closingTagToSkipStack[len-1]` is only evaluated when the stack is non-empty, because
    `skipClosingTag ⇒ stack ≠ []` is an invariant of the loop;
  * the src rewriter is never handed a nil URL (the normalised URL is dropped when it does
    not parse again), so `sanitizeAttrs` always returns.
  The time half of C14 is tied to the code by the handler-call counts and the wall-clock
  families of the correspondence run (see DESIGN §6 C14); the cost theorems about the model
  of `recursiveCheck` are in Proofs/RecCheck.
-/
namespace BM.Props
open BM BM.Html

/-- shape of `closingTagToSkipStack` (top first): plain entries are element names (which
    never start with `/`), a marker `/name` always has a plain `name` somewhere below it -/
inductive StackWF : List Bytes → Prop where
  | nil : StackWF []
  | name (n : Bytes) (s : List Bytes) : n.head? ≠ some 47 → StackWF s → StackWF (n :: s)
  | marker (n : Bytes) (s : List Bytes) : n ∈ s → StackWF s → StackWF ((47 :: n) :: s)

theorem StackWF.tail {s : List Bytes} (h : StackWF s) : StackWF s.tail := by
  cases h with
  | nil => exact .nil
  | name _ _ _ h => exact h
  | marker _ _ _ h => exact h

/-- the loop invariant behind the stack access -/
def StackInv (st : LoopState) : Prop :=
  StackWF st.closingTagToSkipStack ∧ (st.skipClosingTag = true → st.closingTagToSkipStack ≠ [])

theorem stackInv_init : StackInv {} := ⟨.nil, by simp⟩

theorem enterSkip_inv (p : Policy) {st : LoopState} (el : Bytes) (hi : StackInv st) : StackInv (p.enterSkip st el) := by
  unfold Policy.enterSkip; split <;> exact hi

theorem leaveSkip_inv (p : Policy) {st : LoopState} (el : Bytes) (hi : StackInv st) : StackInv (p.leaveSkip st el) := by
  unfold Policy.leaveSkip; split <;> exact hi

theorem clearRecent_inv {st : LoopState} (el : Bytes) (hi : StackInv st) : StackInv (clearRecent st el) := by
  unfold clearRecent; split <;> exact hi

theorem pushDropped_inv {st : LoopState} {el : Bytes} (hel : el.head? ≠ some 47) (hi : StackInv st) :
    StackInv (pushDropped st el) := by
  unfold pushDropped; split
  · exact hi
  · exact ⟨.name _ _ hel hi.1, by simp⟩

theorem markKept_inv {st : LoopState} (el : Bytes) (hi : StackInv st) : StackInv (markKept st el) := by
  unfold markKept; split
  · rename_i hk
    simp only [Bool.and_eq_true, List.contains_eq_mem, decide_eq_true_eq] at hk
    exact ⟨.marker _ _ hk.2 hi.1, by simp⟩
  · exact hi

theorem popDropped_inv {st : LoopState} (hi : StackInv st) : StackInv (popDropped st) := by
  refine ⟨hi.1.tail, fun h => ?_⟩
  simp only [popDropped] at h ⊢
  split at h
  · cases h
  · rename_i hne; simpa using hne

theorem popMarker_inv (st : LoopState) (el : Bytes) (hi : StackInv st) : StackInv (popMarker st el) := by
  unfold popMarker
  split
  · rename_i hm
    simp only [Bool.and_eq_true, beq_iff_eq] at hm
    obtain ⟨hwf, _⟩ := hi
    cases hs : st.closingTagToSkipStack with
    | nil => simp [hs] at hm
    | cons e s =>
      rw [hs] at hwf hm
      simp only [List.head?_cons, Option.some.injEq] at hm
      refine ⟨by simpa using hwf.tail, ?_⟩
      intro _
      simp only [List.tail_cons]
      cases hwf with
      | name n _ hn _ => rw [hm.2] at hn; simp at hn
      | marker n _ hmem _ => exact List.ne_nil_of_mem hmem
  · exact hi

/-- an end tag: the stack is read only where the invariant says it is not empty -/
theorem stepEnd_safe (p : Policy) (st : LoopState) (t : Token) (hi : StackInv st) :
    ∃ st' ws, p.stepEnd st t = some (st', ws) ∧ StackInv st' := by
  have hi1 := clearRecent_inv t.data hi
  unfold Policy.stepEnd
  generalize clearRecent st t.data = st1 at hi1
  have hl := leaveSkip_inv p t.data (popMarker_inv st1 t.data hi1)
  by_cases h1 : (isScriptOrStyle t.data && !p.allowUnsafe) = true
  · exact ⟨_, _, if_pos h1, hi1⟩
  · by_cases h2 : (st1.skipClosingTag && st1.closingTagToSkipStack.isEmpty) = true
    · simp only [Bool.and_eq_true, List.isEmpty_iff] at h2
      exact absurd h2.2 (hi1.2 h2.1)
    · by_cases h3 : (st1.skipClosingTag && st1.closingTagToSkipStack.head? == some t.data) = true
      · exact ⟨_, _, by rw [if_neg h1, if_neg h2, if_pos h3], popDropped_inv hi1⟩
      · by_cases h4 : (!p.explicitEl t.data && !p.patternEl t.data) = true
        · exact ⟨_, _, by rw [if_neg h1, if_neg h2, if_neg h3, if_pos h4], hl⟩
        · exact ⟨_, _, by rw [if_neg h1, if_neg h2, if_neg h3, if_neg h4], hl⟩

theorem step_safe (p : Policy) (st : LoopState) (t : Token) (hn : NameOK t) (hi : StackInv st) :
    ∃ st' ws, p.step st t = some (st', ws) ∧ StackInv st' := by
  have hi0 : StackInv { st with mostRecentlyStartedToken := t.data } := hi
  cases htt : t.tt with
  | doctype => exact ⟨st, _, step_of_doctype htt p st, hi⟩
  | comment => exact ⟨st, _, step_of_comment htt p st, hi⟩
  | text => exact ⟨st, _, step_of_text htt p st, hi⟩
  | end_ => rw [step_of_end htt]; exact stepEnd_safe p st t hi
  | start =>
    rw [step_of_start htt]
    rcases open_cases p t with hh | ⟨hh, hr⟩ | ⟨aps, attrs, hh, hr, hc⟩
    · exact ⟨_, _, stepStart_hidden hh, hi0⟩
    · exact ⟨_, _, stepStart_dis hh hr, enterSkip_inv p t.data hi0⟩
    · cases hb : attrs.isEmpty && !p.allowNoAttrs t.data with
      | true => exact ⟨_, _, stepStart_bare hh hr hc hb, pushDropped_inv (hn htt) hi0⟩
      | false => exact ⟨_, _, stepStart_kept hh hr hc hb, markKept_inv t.data hi0⟩
  | selfClosing =>
    obtain ⟨ws, h⟩ := stepSelfClosing_state p st t
    exact ⟨_, ws, by rw [step_of_selfClosing htt, h], hi0⟩

theorem run_no_panic (p : Policy) (ts : List Token) (hts : ∀ t ∈ ts, NameOK t) :
    ∀ st, StackInv st → (p.run st ts).2 = false := fun st hi =>
  let ⟨_, hr, _⟩ := run_steps StackInv (fun _ _ => True) (fun _ _ => True) trivial (fun _ _ => trivial) ts
    (fun t ht st hi => let ⟨st', ws, hs, hi'⟩ := step_safe p st t (hts t ht) hi; ⟨st', ws, hs, hi', trivial⟩) st hi
  by rw [hr]

/-- a tag name as the tokenizer produces it starts with a lower-case letter, hence not with `/` -/
theorem nameOK_of_tokWF {t : Token} (h : TokWF t) : NameOK t := by
  intro htt
  unfold TokWF at h
  rw [htt] at h
  obtain ⟨⟨c, cs, hd, hc, _⟩, _⟩ := h
  rw [hd]
  intro e
  cases e
  revert hc
  decide

theorem tokenizeAux_nameOK (fuel : Nat) (rawTag s : Bytes) :
    ∀ t ∈ tokenizeAux fuel rawTag s, NameOK t :=
  fun t ht => nameOK_of_tokWF (tokenizeAux_wf fuel rawTag s t ht)

/-- **C14 (no panic)**: for every policy and every input, the loop over the tokenizer's
    output never reaches a partial operation -/
theorem C14_no_panic (p : Policy) (input : Bytes) : p.panics input = false := by
  unfold Policy.panics
  exact run_no_panic p.ensureInit (tokenize input) (tokenizeAux_nameOK _ _ _) {} stackInv_init

/-- non-vacuity: the invariant is exercised (dropped element, kept same-name child, marker) -/
example :
    let p : Policy := { initialized := true, elsAndAttrs := [(b!"a", [(b!"href", [none])])] }
    p.sanitizeCore b!"<a>1<a href=x>2</a>3</a>4</a>" = b!"1<a href=\"x\">2</a>34</a>" := by decide

end BM.Props
