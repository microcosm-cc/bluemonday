import BM.Proofs.SkipText
import BM.Props.C09
import BM.Spec.More
/-
  C08: content of disallowed invisible-content elements is removed.  Event level: while `skipElementContent` is
  set, a text, start tag, self-closing tag or doctype writes nothing but the space of AddSpaceWhenStrippingTag,
  whatever the policy allows (so allowed descendants of a skipped element do not leak); a disallowed non-void
  element of the skip set counts one level up, its end tag one level down, and skipping ends exactly when the
  count returns to 0.  Whole well-nested documents (`C08_events`, `C08_bytesC_on` and their corollaries): the text
  written — re-read from the returned bytes — is exactly the input's text outside every disallowed skip-content
  element (`Spec.visibleTextAux`: depth = number of open disallowed skip-content ancestors), proved with
  `nest_text` / `nest_text_sp` (Proofs/SkipText, over the simulation of Proofs/Nesting) for inputs without script/style
  tags (their bodies are C05's).
-/
namespace BM.Props
open BM BM.Html BM.Spec

/-- nothing but spaces is written while skipping (comments excepted: they are written
    regardless, as in the Go code; end tags excepted: `Emit` does not say whether one is skipped) -/
theorem skipping_writes_nothing (p : Policy) (st : LoopState) (t : Token) (ws : List Write)
    (he : Emit p st t ws) (hskip : st.skipElementContent = true) (hc : t.tt ≠ .comment) (hend : t.tt ≠ .end_) :
    ∀ w ∈ ws, w.data = [32] := by
  cases he with
  | nothing => simp
  | space _ => intro w hw; simp at hw; subst hw; rfl
  | comment htt _ => exact absurd htt hc
  | openTag _ _ _ _ _ _ _ h => simp [hskip] at h
  | closeTag htt _ _ => exact absurd htt hend
  | text _ h _ => simp [hskip] at h
  | rawText _ _ h => simp [hskip] at h

/-- a disallowed, non-void skip-content element starts one level of skipping -/
theorem enter_skip (p : Policy) (st : LoopState) (el : Bytes)
    (hs : p.setOfElementsToSkipContent.contains el = true) (hv : isVoidElement el = false) :
    (p.enterSkip st el).skipElementContent = true ∧
    (p.enterSkip st el).skippingElementsCount = st.skippingElementsCount + 1 := by
  simp only [List.contains_eq_mem, decide_eq_true_eq] at hs
  simp [Policy.enterSkip, hs, hv]

/-- the end tag of such an element ends that level; skipping stops exactly when the count is back at zero -/
theorem leave_skip (p : Policy) (st : LoopState) (el : Bytes)
    (he : p.explicitEl el = false) (hp : p.patternEl el = false)
    (hs : p.setOfElementsToSkipContent.contains el = true) :
    (p.leaveSkip st el).skippingElementsCount = st.skippingElementsCount - 1 ∧
    (p.leaveSkip st el).skipElementContent =
      (if st.skippingElementsCount - 1 == 0 then false else st.skipElementContent) := by
  simp only [List.contains_eq_mem, decide_eq_true_eq] at hs
  simp [Policy.leaveSkip, he, hp, hs]

/-- an allowed element (by name or by pattern) never changes the skip state at its end tag -/
theorem allowed_end_keeps_skip (p : Policy) (st : LoopState) (el : Bytes)
    (h : p.explicitEl el = true ∨ p.patternEl el = true) : p.leaveSkip st el = st :=
  leaveSkip_of_allowed p st el (Bool.or_eq_true_iff.mpr h)

example :
    let p : Policy := { initialized := true, elsAndAttrs := [(b!"b", [])], elsMatchingAndAttrs := [(⟨1, hasPrefix b!"my-"⟩, [])],
                        setOfElementsAllowedWithoutAttrs := [b!"b", b!"my-el"],
                        setOfElementsToSkipContent := [b!"object"] }
    p.sanitizeCore b!"a<object>1<b>2</b><my-el>x</my-el>LEAK<object>3</object>4</object>z" = b!"az" := by decide

/-- **C08 (event level)**: for every policy without AllowUnsafe and AddSpaceWhenStrippingTag and
    every well-nested input without script/style tags, the loop writes the serialisation of a
    token list whose text is exactly the input's text outside every disallowed skip-content
    element; nesting of such elements is honoured (the depth is counted). -/
theorem C08_events (p : Policy) (hu : p.ensureInit.allowUnsafe = false) (hs : p.ensureInit.addSpaces = false)
    (input : Bytes) (hwn : wellNested (tokenize input) = true)
    (hnos : ∀ t ∈ tokenize input, isTag t = true → isScriptOrStyle t.data = false) :
    ∃ ws toks, p.ensureInit.run {} (tokenize input) = (ws, false) ∧
      RunWrites p.ensureInit (tokenize input) ws toks ∧
      textOf toks = visibleTextAux p.ensureInit 0 [] (tokenize input) :=
  nest_text p.ensureInit hu hs (tokenize input) [] {} (abs_init _) rfl (by simp)
    (tokenizeAux_nameOK _ _ _) hnos hwn

/-- (per-input form)  **C08 (byte level), comments allowed or not**: under the hypotheses of `C08_events`, for
    every input none of whose raw-text tags names an element the policy allows, the text an HTML tokenizer
    reads from the returned bytes is exactly the input's text outside every disallowed skip-content
    element — comments that come through are not text -/
theorem C08_bytesC_on (p : Policy) (hs : p.ensureInit.addSpaces = false)
    (input : Bytes) (hp : PlainOn p.ensureInit (tokenize input)) (hwn : wellNested (tokenize input) = true)
    (hnos : ∀ t ∈ tokenize input, isTag t = true → isScriptOrStyle t.data = false) :
    textOf (tokenize (p.sanitizeCore input)) = visibleTextAux p.ensureInit 0 [] (tokenize input) := by
  obtain ⟨ws, toks, hrun, hw, htext⟩ := C08_events p hp.noUnsafe hs input hwn hnos
  rw [runWrites_reread hp hrun hw, textOf_coalesce, textOf_map_reread]
  exact htext

/-- **C08 (byte level), comments allowed or not**: the same for every policy without AllowUnsafe and
    without a raw-text element on its allowlist -/
theorem C08_bytesC (p : Policy) (hp : PlainC p.ensureInit) (hs : p.ensureInit.addSpaces = false)
    (input : Bytes) (hwn : wellNested (tokenize input) = true)
    (hnos : ∀ t ∈ tokenize input, isTag t = true → isScriptOrStyle t.data = false) :
    textOf (tokenize (p.sanitizeCore input)) = visibleTextAux p.ensureInit 0 [] (tokenize input) :=
  C08_bytesC_on p hs input (hp.on _) hwn hnos

/-- **C08 (byte level, plain policies)**: under the hypotheses of `C08_events` on the input, the text an HTML
    tokenizer reads from the returned bytes is exactly the input's text outside every disallowed skip-content
    element. -/
theorem C08_bytes (p : Policy) (hp : Plain p.ensureInit) (hs : p.ensureInit.addSpaces = false)
    (input : Bytes) (hwn : wellNested (tokenize input) = true)
    (hnos : ∀ t ∈ tokenize input, isTag t = true → isScriptOrStyle t.data = false) :
    textOf (tokenize (p.sanitizeCore input)) = visibleTextAux p.ensureInit 0 [] (tokenize input) :=
  C08_bytesC_on p hs input (hp.toC.on _) hwn hnos

/-- non-vacuity: nested skipped elements, an allowed element inside a skipped one -/
example :
    let p : Policy := { initialized := true, elsAndAttrs := [(b!"b", [])], setOfElementsAllowedWithoutAttrs := [b!"b"],
                        setOfElementsToSkipContent := [b!"object", b!"title"] }
    visibleTextAux p 0 [] (tokenize b!"a<object>x<b>y</b><object>z</object>w</object>c<i>d</i>") = b!"acd" ∧
    p.sanitizeCore b!"a<object>x<b>y</b><object>z</object>w</object>c<i>d</i>" = b!"acd" := by decide

/-- **C08 (event level), AddSpaceWhenStrippingTag or not**: for every policy without AllowUnsafe and every
    well-nested input without script/style tags, the text the loop writes is — space characters aside,
    since every removed tag may have left one — exactly the input's text outside every disallowed
    skip-content element -/
theorem C08_events_spaces (p : Policy) (hu : p.ensureInit.allowUnsafe = false)
    (input : Bytes) (hwn : wellNested (tokenize input) = true)
    (hnos : ∀ t ∈ tokenize input, isTag t = true → isScriptOrStyle t.data = false) :
    ∃ ws toks, p.ensureInit.run {} (tokenize input) = (ws, false) ∧
      RunWrites p.ensureInit (tokenize input) ws toks ∧
      noSp (textOf toks) = noSp (visibleTextAux p.ensureInit 0 [] (tokenize input)) :=
  nest_text_sp p.ensureInit hu (tokenize input) [] {} (abs_init _) rfl (by simp)
    (tokenizeAux_nameOK _ _ _) hnos hwn

/-- (per-input form)  **C08 (byte level), AddSpaceWhenStrippingTag or not, comments allowed or not**: for a
    well-nested input without script/style tags, the text an HTML tokenizer reads from the returned bytes is,
    space characters aside, the input's text outside every disallowed skip-content element — nothing inside one
    appears, everything outside does -/
theorem C08_bytes_spaces_on (p : Policy)
    (input : Bytes) (hp : PlainOn p.ensureInit (tokenize input)) (hwn : wellNested (tokenize input) = true)
    (hnos : ∀ t ∈ tokenize input, isTag t = true → isScriptOrStyle t.data = false) :
    noSp (textOf (tokenize (p.sanitizeCore input))) = noSp (visibleTextAux p.ensureInit 0 [] (tokenize input)) := by
  obtain ⟨ws, toks, hrun, hw, htext⟩ := C08_events_spaces p hp.noUnsafe input hwn hnos
  rw [runWrites_reread hp hrun hw, textOf_coalesce, textOf_map_reread]
  exact htext

/-- the same for every policy without AllowUnsafe and without a raw-text element on its allowlist -/
theorem C08_bytes_spaces (p : Policy) (hp : PlainC p.ensureInit)
    (input : Bytes) (hwn : wellNested (tokenize input) = true)
    (hnos : ∀ t ∈ tokenize input, isTag t = true → isScriptOrStyle t.data = false) :
    noSp (textOf (tokenize (p.sanitizeCore input))) = noSp (visibleTextAux p.ensureInit 0 [] (tokenize input)) :=
  C08_bytes_spaces_on p input (hp.on _) hwn hnos

/-- non-vacuity: spaces are added, hidden text stays hidden -/
example :
    let p : Policy := { initialized := true, addSpaces := true, elsAndAttrs := [(b!"b", [])],
                        setOfElementsAllowedWithoutAttrs := [b!"b"], setOfElementsToSkipContent := [b!"object"] }
    p.sanitizeCore b!"a<object>x<b>y</b></object>c<i>d</i>" = b!"a  c d " := by decide

/-! ### `oracleC08` on the model

In the class of `C08_bytesC_on` — no AllowUnsafe, no allowed raw-text tag in the input, no script/style tag in
the input — the oracle holds of what the model returns (see Props/C09 for why this is stated).  Inputs with
script/style tags are C05's; the oracle covers them, the byte-level theorem does not. -/

theorem oracleC08_model (p : Policy) (input : Bytes) (hp : PlainOn p.ensureInit (tokenize input))
    (hnos : ∀ t ∈ tokenize input, isTag t = true → isScriptOrStyle t.data = false) :
    oracleC08 p.ensureInit input (p.sanitizeCore input) = true := by
  unfold oracleC08
  cases hin : inClassC08 p.ensureInit input with
  | false => rfl
  | true =>
    unfold inClassC08 at hin
    simp only [Bool.and_eq_true, Bool.not_eq_true'] at hin
    obtain ⟨⟨⟨⟨⟨_, hs⟩, hwn⟩, _⟩, _⟩, _⟩ := hin
    simp only [Bool.not_true, Bool.false_or, beq_iff_eq]
    exact C08_bytesC_on p hs input hp hwn hnos

end BM.Props
