import BM.Gen.CssHandlers
import BM.Gen.Shipped
import BM.Gen.SanFacts
import BM.Sanitize
/-
  Source pins: the few pieces of /repo that are modelled by hand rather than regenerated
  (the helpers of css/handlers.go — `in`, `multiSplit`, `splitValues`, `recursiveCheck(From)` —,
  `GetDefaultHandler`, and the closure in AllowDataURIImages) are pinned by the sha256 of their
  printed source, recomputed by the extractor on every run; the `switch` tables over element names
  in sanitize.go are pinned by their content.  If one of them is edited, these theorems stop
  checking and the hand model has to be revisited.
-/
namespace BM.Props
open BM

theorem css_helper_pins :
    Gen.helperHashes =
      [("in", "cbdfdf275fce9a8979afe6afb4f1dd35454d527f3f62aeb486c847803eab1155"),
       ("multiSplit", "14163f3eb543958da885e7030253260bad8213b1d6d75f58c14002960712b9c8"),
       ("recursiveCheck", "ce0836b547aeb1980c206b5980aa38ddb1d9bf30ccc11f5ed34c5eef538868cc"),
       ("recursiveCheckFrom", "282a330187397d85ee25953354308019b6714d7273bba511c2af7c2afbd8ec7a"),
       ("splitValues", "ebf49946b8a3a2133d1830380b919a7b4c0e1413ec7b5b9dd32aa529a30d592e"),
       ("GetDefaultHandler", "4348291cdf0b8d658828947a72b32cfcd4f94d2311a2518f99f494461aa6dd72")] := rfl

/-- the closure `AllowDataURIImages` registers for the data scheme (hand model: `dataURIImagePolicy`) -/
theorem data_uri_closure_pin :
    Gen.dataURIImageClosureHash = "b0dfd2cef2417df9960d9ed7879140f24274abf1fc7ebed888385747310b14eb" := rfl

def hrefEls : List Bytes := [b!"a", b!"area", b!"base", b!"link"]
def citeEls : List Bytes := [b!"blockquote", b!"del", b!"ins", b!"q"]
def srcEls : List Bytes :=
  [b!"audio", b!"embed", b!"iframe", b!"img", b!"input", b!"script", b!"source", b!"track", b!"video"]
def coEls : List Bytes := [b!"audio", b!"img", b!"link", b!"script", b!"video"]
def voidEls : List Bytes :=
  [b!"area", b!"base", b!"br", b!"col", b!"embed", b!"hr", b!"img", b!"input", b!"link", b!"meta", b!"param",
   b!"source", b!"track", b!"wbr"]

/-- every `switch` over element names in sanitize.go, as the extractor reads it from the source on
    each run: the script/style gates of the token loop (three tag cases and the text case), the URL
    pass (href / cite / src groups), the link-hardening and crossorigin blocks, `linkable`,
    `isVoidElement`.  An element added to or dropped from any of these tables breaks this theorem. -/
theorem sanitize_switches_pin :
    Gen.sanitizeSwitches =
      [("sanitize", "normaliseElementName(…)", [[b!"script"], [b!"style"]]),
       ("sanitize", "normaliseElementName(…)", [[b!"script"], [b!"style"]]),
       ("sanitize", "normaliseElementName(…)", [[b!"script"], [b!"style"]]),
       ("sanitize", "mostRecentlyStartedToken", [[b!"script"], [b!"style"]]),
       ("sanitizeAttrs", "elementName", [hrefEls, citeEls, srcEls]),
       ("sanitizeAttrs", "elementName", [hrefEls]),
       ("sanitizeAttrs", "elementName", [coEls]),
       ("linkable", "elementName", [hrefEls, citeEls, srcEls]),
       ("isVoidElement", "elementName", [voidEls])] := rfl

/-- the model's predicates are exactly these tables -/
theorem model_element_tables (el : Bytes) :
    isHrefElement el = hrefEls.contains el ∧ isCiteElement el = citeEls.contains el ∧
    isSrcElement el = srcEls.contains el ∧ isCrossOriginElement el = coEls.contains el ∧
    isVoidElement el = voidEls.contains el ∧
    linkable el = (hrefEls.contains el || citeEls.contains el || srcEls.contains el) ∧
    isScriptOrStyle el = [b!"script", b!"style"].contains el := by
  simp only [isHrefElement, isCiteElement, isSrcElement, isCrossOriginElement, isVoidElement, linkable, isScriptOrStyle,
    hrefEls, citeEls, srcEls, coEls, voidEls, List.contains_cons, List.contains_nil, Bool.or_false, Bool.or_assoc,
    and_self]

end BM.Props
