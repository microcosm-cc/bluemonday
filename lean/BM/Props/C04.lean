import BM.Shipped
import BM.Proofs.Step
import BM.Proofs.RtDoc
import BM.Spec.More
/-
  C04 (Strict half): for every input, StrictPolicy returns text with no markup at all.
  Proved for the model at byte level, which is stronger than the tokenizer-level reading:
  the output contains neither `<` nor `>`.
-/
namespace BM.Props
open BM BM.Html

/-- a policy that allows no element at all, keeps no comments and inserts no spaces -/
structure Bare (p : Policy) : Prop where
  inited : p.initialized = true
  els : p.elsAndAttrs = []
  elsm : p.elsMatchingAndAttrs = []
  comments : p.allowComments = false
  spaces : p.addSpaces = false
  noUnsafe : p.allowUnsafe = false

theorem bare_ensureInit {p : Policy} (h : Bare p) : p.ensureInit = p := by
  simp [Policy.ensureInit, h.inited]

theorem bare_space {p : Policy} (h : Bare p) : p.space = [] := by
  simp [Policy.space, h.spaces]

theorem bare_emit_writes {p : Policy} (h : Bare p) {st : LoopState} {t : Token} {ws : List Write}
    (he : Emit p st t ws) : ∀ w ∈ ws, ∃ d, w.data = escape d := by
  cases he with
  | nothing => simp
  | space hsp => simp [h.spaces] at hsp
  | comment _ hc => simp [h.comments] at hc
  | openTag aps _ _ haps _ _ _ _ =>
    simp [Policy.attrRulesFor, Policy.matchRegex, h.els, h.elsm, Map.get?] at haps
  | closeTag _ _ hall => simp [h.els, h.elsm, Map.contains, Map.get?] at hall
  | text htt _ _ => intro w hw; simp at hw; subst hw; exact ⟨t.data, by simp [Token.render, htt]⟩
  | rawText _ hu _ => simp [h.noUnsafe] at hu

theorem bare_run_writes {p : Policy} (h : Bare p) (ts : List Token) (st : LoopState) :
    ∀ w ∈ (p.run st ts).1, ∃ d, w.data = escape d :=
  run_writes_of_emit (fun b => ∃ d, b = escape d) (bare_emit_writes h) ts st

theorem bare_no_markup {p : Policy} (h : Bare p) (input : Bytes) :
    ∀ c ∈ p.sanitizeCore input, c ≠ 60 ∧ c ≠ 62 := by
  intro c hc
  simp only [Policy.sanitizeCore, bare_ensureInit h, Policy.sanitizeTokens, List.mem_flatten, List.mem_map] at hc
  obtain ⟨l, ⟨w, hw, rfl⟩, hcl⟩ := hc
  obtain ⟨d, hd⟩ := bare_run_writes h (tokenize input) {} w hw
  rw [hd] at hcl
  have := escape_no_special d c hcl
  exact ⟨this.1, this.2.1⟩

theorem strict_is_bare : Bare strictPolicy :=
  ⟨rfl, rfl, rfl, rfl, rfl, rfl⟩

/-- **C04, Strict**: `StrictPolicy().Sanitize*` never emits `<` or `>` (`sanitizeCore` is what they return on
    non-blank input; blank input comes back unchanged). -/
theorem C04_strict_no_markup (input : Bytes) :
    ∀ c ∈ strictPolicy.sanitizeCore input, c ≠ 60 ∧ c ≠ 62 :=
  bare_no_markup strict_is_bare input

/-- the whole output of a bare policy is the escaping of one string -/
theorem bare_output_escape {p : Policy} (h : Bare p) (input : Bytes) :
    ∃ D, p.sanitizeCore input = escape D := by
  have hw := bare_run_writes h (tokenize input) {}
  unfold Policy.sanitizeCore Policy.sanitizeTokens
  rw [bare_ensureInit h]
  generalize (p.run {} (tokenize input)).1 = ws at hw
  induction ws with
  | nil => exact ⟨[], rfl⟩
  | cons w ws ih =>
    obtain ⟨d, hd⟩ := hw w (by simp)
    obtain ⟨D, hD⟩ := ih (fun w' hw' => hw w' (by simp [hw']))
    refine ⟨d ++ D, ?_⟩
    simp only [List.map_cons, List.flatten_cons, hd, hD, escape_append]

/-- an escaped text is a fixed point of every policy: it is read as one text token and written as the same
    escaping again -/
theorem sanitizeCore_escape (p : Policy) (D : Bytes) : p.sanitizeCore (escape D) = escape D := by
  by_cases hD : D = []
  · subst hD
    simp [Policy.sanitizeCore, Policy.sanitizeTokens, escape, tokenize, tokenizeAux, next, Policy.run]
  · rw [Policy.sanitizeCore, tokenize_escape D hD]
    have hstep : p.ensureInit.step {} ⟨.text, D, []⟩ = some ({}, [⟨escape D⟩]) := by
      simp [Policy.step, Policy.stepText, isScriptOrStyle, Token.render]
    simp [Policy.sanitizeTokens, Policy.run, hstep]

/-- hence a policy is idempotent wherever its output is the escaping of some string -/
theorem idempotent_of_output_escape (p : Policy) (input : Bytes) (h : ∃ D, p.sanitizeCore input = escape D) :
    p.sanitizeCore (p.sanitizeCore input) = p.sanitizeCore input := by
  obtain ⟨D, hD⟩ := h
  rw [hD]; exact sanitizeCore_escape p D

/-- **C20 for Strict (and every bare policy), byte level**: sanitising the output again
    changes nothing — escaping is not applied twice -/
theorem bare_idempotent {p : Policy} (h : Bare p) (input : Bytes) :
    p.sanitizeCore (p.sanitizeCore input) = p.sanitizeCore input :=
  idempotent_of_output_escape p input (bare_output_escape h input)

theorem C20_strict_idempotent (input : Bytes) :
    strictPolicy.sanitizeCore (strictPolicy.sanitizeCore input) = strictPolicy.sanitizeCore input :=
  bare_idempotent strict_is_bare input

/-- non-vacuity: the theorem speaks about a run that really writes something -/
example : strictPolicy.sanitizeCore b!"<b>1 < 2</b>" = b!"1 &lt; 2" := by decide

open BM.Spec

/-! ### `oracleC04strict` on the model (see Props/C09 for why this is stated) -/

/-- `oracleC04strict` holds of the model's output for every input -/
theorem oracleC04strict_model (input : Bytes) : oracleC04strict (strictPolicy.sanitizeCore input) = true := by
  unfold oracleC04strict
  rw [List.all_eq_true]
  intro c hc
  have := C04_strict_no_markup input c hc
  simp [this.1, this.2]

end BM.Props
