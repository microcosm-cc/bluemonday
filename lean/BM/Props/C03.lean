import BM.Props.Pins
import BM.Proofs.AttrPass
import BM.Proofs.UrlRelative
import BM.Proofs.Prov
/-
  C03: URL attributes carry only allowed schemes (or allowed relative URLs).  What `validURL` returns under URL
  checking is the re-serialisation `print u` of a URL `u` that net/url parsed from the trimmed value, with a scheme
  the policy accepts or, scheme-less, as an allowed non-empty relative reference (`validURL_sound`); every href /
  cite / src that `sanitizeAttrs` returns at one of the seventeen (element, attribute) positions carries such a
  value (`C03_sanitizeAttrs`; re-read from the bytes, `C03_bytes_on`); and what a browser makes of it
  (`Spec.classifyUrl`, the WHATWG scheme-state rules) is what net/url made of the input (`C03_browser`, resting on
  `Url.printed_class`).
-/
namespace BM.Props
open BM BM.Html

/-- the scheme of a parsed URL is acceptable to the policy -/
def SchemeAccepted (p : Policy) (u : Url.URL) : Prop :=
  (u.scheme ≠ [] ∧
    ((∃ checks, p.allowURLSchemes.get? u.scheme = some checks ∧ (checks = [] ∨ checks.any (· u) = true)) ∨
     (p.allowURLSchemes.get? u.scheme = none ∧ p.allowURLSchemeRegexps.any (·.test u.scheme) = true))) ∨
  (u.scheme = [] ∧ p.allowRelativeURLs = true ∧ Url.print u ≠ [])

theorem validURL_sound (p : Policy) (raw v : Bytes) (hreq : p.requireParseableURLs = true)
    (h : p.validURL raw = some v) :
    ∃ raw' u, Url.parse raw' = some u ∧ v = Url.print u ∧ SchemeAccepted p u := by
  unfold Policy.validURL at h
  simp only [hreq, ↓reduceIte] at h
  split at h
  · simp at h
  · rename_i raw' _
    split at h
    · simp at h
    · rename_i u hu
      refine ⟨raw', u, hu, ?_⟩
      by_cases hs : u.scheme.isEmpty = true
      · simp only [hs, Bool.not_true, Bool.false_eq_true, ↓reduceIte] at h
        split at h
        · rename_i hrel
          simp only [Bool.and_eq_true, Bool.not_eq_true', List.isEmpty_eq_false_iff] at hrel
          simp only [Option.some.injEq] at h
          exact ⟨h.symm, .inr ⟨List.isEmpty_iff.mp hs, hrel.1, hrel.2⟩⟩
        · simp at h
      · simp only [hs, Bool.not_false, ↓reduceIte] at h
        have hne : u.scheme ≠ [] := fun e => hs (by simp [e])
        split at h
        · rename_i hget
          split at h
          · simp only [Option.some.injEq] at h
            exact ⟨h.symm, .inl ⟨hne, .inr ⟨hget, by assumption⟩⟩⟩
          · simp at h
        · rename_i policies hget
          split at h
          · rename_i hemp
            simp only [Option.some.injEq] at h
            exact ⟨h.symm, .inl ⟨hne, .inl ⟨policies, hget, .inl (List.isEmpty_iff.mp hemp)⟩⟩⟩
          · split at h
            · simp only [Option.some.injEq] at h
              exact ⟨h.symm, .inl ⟨hne, .inl ⟨policies, hget, .inr (by assumption)⟩⟩⟩
            · simp at h

/-- inner whitespace is only tolerated in data: URLs -/
theorem validURL_whitespace (p : Policy) (raw : Bytes) (hreq : p.requireParseableURLs = true)
    (hws : let t := Css.trimSpace raw; (t.contains 32 || t.contains 9 || t.contains 10) = true)
    (hnd : hasPrefix b!"data:" (Css.trimSpace raw) = false) : p.validURL raw = none := by
  unfold Policy.validURL
  simp only [hreq, ↓reduceIte]
  simp only at hws
  simp only [hws, ↓reduceIte, hnd, Bool.not_false]

theorem urlPass_href (p : Policy) (el : Bytes) (a : Attr) (hel : isHrefElement el = true) (hk : a.key = b!"href") :
    p.urlPassAttr el a = some ((p.validURL a.val).map fun u => ⟨a.key, u⟩) :=
  urlPass_checked p el a (by rw [isUrlPosition_eq, hk, hel]; rfl) fun e => absurd (hk ▸ e) (by decide)

theorem urlPass_cite (p : Policy) (el : Bytes) (a : Attr) (hel : isCiteElement el = true) (hk : a.key = b!"cite") :
    p.urlPassAttr el a = some ((p.validURL a.val).map fun u => ⟨a.key, u⟩) :=
  urlPass_checked p el a (by rw [isUrlPosition_eq, hk, hel]; rfl) fun e => absurd (hk ▸ e) (by decide)

/-- the seventeen URL-checked positions of the statement are positions the model checks
    (the model is tied to the code by `sanitize_switches_pin`, `model_element_tables`, Props/Pins) -/
theorem url_positions :
    (∀ el ∈ [b!"a", b!"area", b!"base", b!"link"], isHrefElement el = true ∧ linkable el = true) ∧
    (∀ el ∈ [b!"blockquote", b!"del", b!"ins", b!"q"], isCiteElement el = true ∧ linkable el = true) ∧
    (∀ el ∈ [b!"audio", b!"embed", b!"iframe", b!"img", b!"input", b!"script", b!"source", b!"track", b!"video"],
        isSrcElement el = true ∧ linkable el = true) := by decide +kernel

/-- the seventeen positions, decomposed the way the URL pass tests them -/
theorem urlPosition_cases (el k : Bytes) (h : Spec.isUrlPosition el k = true) :
    linkable el = true ∧
    ((k = b!"href" ∧ isHrefElement el = true) ∨
     (k = b!"cite" ∧ isCiteElement el = true ∧ isHrefElement el = false) ∨
     (k = b!"src" ∧ isSrcElement el = true ∧ isHrefElement el = false ∧ isCiteElement el = false)) := by
  simp only [isUrlPosition_eq, Bool.or_eq_true, Bool.and_eq_true, beq_iff_eq] at h
  obtain ⟨hcite, hsrc⟩ := urlClasses_disjoint el
  rw [linkable_eq]
  rcases h with (⟨hk, hel⟩ | ⟨hk, hel⟩) | ⟨hk, hel⟩
  · exact ⟨by rw [hel]; rfl, .inl ⟨hk, hel⟩⟩
  · exact ⟨by rw [hel, Bool.or_true, Bool.true_or], .inr (.inl ⟨hk, hel, hcite hel⟩)⟩
  · exact ⟨by rw [hel, Bool.or_true], .inr (.inr ⟨hk, hel, hsrc hel⟩)⟩

/-- what C03 says of one attribute of element `el`: at a URL-checked position its value is one
    that `validURL` returned (a src under a rewriter is the rewriter's business) -/
def UrlChecked (p : Policy) (el : Bytes) (b : Attr) : Prop :=
  Spec.isUrlPosition el b.key = true → (b.key = b!"src" → p.srcRewriter = none) →
    ∃ raw, p.validURL raw = some b.val

theorem urlChecked_passInv (p : Policy) (el : Bytes) : PassInv (UrlChecked p el) :=
  .of_added fun x hx hpos => by
    rcases hx with h | h | h | h <;> rcases isUrlPosition_key hpos with hk | hk | hk <;>
      exact absurd (h.symm.trans hk) (by decide)

/-- **C03 for the whole of `sanitizeAttrs`** (every policy with URL checking on, every element and
    attribute list): every href / cite / src at one of the seventeen positions that is returned
    carries a value `validURL` returned — hence (`validURL_sound`) the printed form of a parsed
    URL whose scheme the policy accepts, or an allowed non-empty relative reference. -/
theorem C03_sanitizeAttrs (p : Policy) (hreq : p.requireParseableURLs = true) (el : Bytes) (attrs : List Attr)
    (aps : AttrRules) (out : List Attr) (h : p.sanitizeAttrs el attrs aps = some out) :
    ∀ b ∈ out, UrlChecked p el b := by
  refine sanitizeAttrs_after_urlPass (urlChecked_passInv p el) p el attrs aps out h ?_
  intro mid _
  constructor
  · intro hnot b _ hpos
    exfalso
    exact hnot ⟨(urlPosition_cases el b.key hpos).1, hreq⟩
  · intro _ _ m2 hm2 b hb hpos hsrc
    obtain ⟨a, _, hab⟩ := mapMOpt_mem _ mid m2 hm2 b hb
    have hk := urlPassAttr_key p el a b hab
    rw [urlPass_checked p el a (hk ▸ hpos) fun e => hsrc (hk ▸ e)] at hab
    obtain ⟨u, hu, rfl⟩ := Option.map_eq_some_iff.mp (Option.some.inj hab)
    exact ⟨a.val, hu⟩

/-- **C03 (byte level, per input, URL checking on)**: every href / cite / src at a checked
    position on a tag re-read from the returned bytes carries a value `validURL` returned. -/
theorem C03_bytes_on (p : Policy) (hreq : p.ensureInit.requireParseableURLs = true)
    (input : Bytes) (hp : PlainOn p.ensureInit (tokenize input)) :
    ∀ k ∈ tokenize (p.sanitizeCore input), (k.tt = .start ∨ k.tt = .selfClosing) →
      ∀ b ∈ k.attrs, UrlChecked p.ensureInit k.data b := by
  intro k hk htt b hb
  obtain ⟨t, _, aps, _, _, hs⟩ := reread_open_tagOn p input hp k hk htt (List.ne_nil_of_mem hb)
  exact C03_sanitizeAttrs p.ensureInit hreq k.data t.attrs aps k.attrs hs b hb

/-- **C03 (byte level, URL checking on)**: the same for every input, under a policy without AllowUnsafe and
    without a raw-text element on its allowlist. -/
theorem C03_bytes (p : Policy) (hp : PlainC p.ensureInit) (hreq : p.ensureInit.requireParseableURLs = true)
    (input : Bytes) :
    ∀ k ∈ tokenize (p.sanitizeCore input), (k.tt = .start ∨ k.tt = .selfClosing) →
      ∀ b ∈ k.attrs, UrlChecked p.ensureInit k.data b :=
  C03_bytes_on p hreq input (hp.on _)

/-- what a browser makes of a value `validURL` returns (`validURL_sound` and `Url.printed_class`): by the
    WHATWG scheme-state rules it has the scheme net/url saw, which the policy accepts, or it is the printed form
    of a scheme-less URL, a relative reference for the browser too, relative URLs being allowed -/
theorem validURL_class (p : Policy) (hreq : p.requireParseableURLs = true) (raw v : Bytes)
    (h : p.validURL raw = some v) :
    (∃ s, Spec.classifyUrl v = .scheme s ∧ s ≠ [] ∧
      ((∃ checks, p.allowURLSchemes.get? s = some checks) ∨ p.allowURLSchemeRegexps.any (·.test s) = true)) ∨
    (∃ u : Url.URL, v = Url.print u ∧ u.scheme = [] ∧ Spec.classifyUrl v = .relative ∧
      p.allowRelativeURLs = true ∧ v ≠ []) := by
  obtain ⟨raw', u, hp, rfl, hacc⟩ := validURL_sound p raw v hreq h
  have hc := Url.printed_class raw' u hp
  rcases hacc with ⟨hne, hs⟩ | ⟨he, hrel, hnonempty⟩
  · rw [if_neg hne] at hc
    exact .inl ⟨u.scheme, hc, hne, hs.elim (fun ⟨checks, hget, _⟩ => .inl ⟨checks, hget⟩) fun h => .inr h.2⟩
  · rw [if_pos he] at hc
    exact .inr ⟨u, rfl, he, hc, hrel, hnonempty⟩

/-- **C03, what a browser makes of an accepted URL** (scheme half of the bridge): a value
    `validURL` returns either is classified by the WHATWG scheme-state rules as having a scheme —
    and then that scheme is on the policy's allowlist or matched by a scheme pattern — or it is the printed
    form of a scheme-less URL, relative URLs being allowed.  (That a browser reads the latter as relative is
    `C03_browser` below.) -/
theorem C03_browser_scheme (p : Policy) (hreq : p.requireParseableURLs = true) (raw v : Bytes)
    (h : p.validURL raw = some v) :
    (∃ s, Spec.classifyUrl v = .scheme s ∧ s ≠ [] ∧
      ((∃ checks, p.allowURLSchemes.get? s = some checks) ∨ p.allowURLSchemeRegexps.any (·.test s) = true)) ∨
    (∃ u : Url.URL, v = Url.print u ∧ u.scheme = [] ∧ p.allowRelativeURLs = true ∧ v ≠ []) :=
  (validURL_class p hreq raw v h).imp_right fun ⟨u, hv, he, _, hrel, hne⟩ => ⟨u, hv, he, hrel, hne⟩

/-- what a browser makes of a URL value under policy `p`: by the WHATWG scheme-state rules it has
    a scheme the policy accepts (allowlisted, or matched by a scheme pattern), or it is a non-empty
    relative reference and relative URLs are allowed -/
def BrowserOK (p : Policy) (v : Bytes) : Prop :=
  (∃ s, Spec.classifyUrl v = .scheme s ∧ s ≠ [] ∧
    ((∃ checks, p.allowURLSchemes.get? s = some checks) ∨ p.allowURLSchemeRegexps.any (·.test s) = true)) ∨
  (Spec.classifyUrl v = .relative ∧ p.allowRelativeURLs = true ∧ v ≠ [])

/-- **C03, both halves of the browser bridge**: every value `validURL` returns is, for a browser,
    a URL whose scheme the policy accepts or — only when relative URLs are allowed — a relative
    reference.  The classification a browser makes (after stripping C0/space and deleting tab and
    newlines) is exactly the one net/url made on the input (`Url.printed_class`).  In particular no
    value with a scheme the policy does not accept (javascript:, vbscript:, data:, … however the input
    spelled, padded or entity-encoded it) comes out. -/
theorem C03_browser (p : Policy) (hreq : p.requireParseableURLs = true) (raw v : Bytes)
    (h : p.validURL raw = some v) : BrowserOK p v :=
  (validURL_class p hreq raw v h).imp_right fun ⟨_, _, _, hc, hrel, hne⟩ => ⟨hc, hrel, hne⟩

/-- **C03 at byte level, as a browser reads it** (per input; URL checking on, no src rewriter): every
    href / cite / src at a checked position on a tag re-read from the returned bytes is `BrowserOK` —
    no javascript:, data:, vbscript: … URL unless the policy accepts that scheme, and no relative URL
    unless relative URLs are allowed. -/
theorem C03_bytes_browser_on (p : Policy) (hreq : p.ensureInit.requireParseableURLs = true)
    (hnr : p.ensureInit.srcRewriter = none) (input : Bytes) (hp : PlainOn p.ensureInit (tokenize input)) :
    ∀ k ∈ tokenize (p.sanitizeCore input), (k.tt = .start ∨ k.tt = .selfClosing) →
      ∀ b ∈ k.attrs, Spec.isUrlPosition k.data b.key = true → BrowserOK p.ensureInit b.val := by
  intro k hk htt b hb hpos
  obtain ⟨raw, hv⟩ := C03_bytes_on p hreq input hp k hk htt b hb hpos (fun _ => hnr)
  exact C03_browser _ hreq raw b.val hv

/-- **C03 at byte level, as a browser reads it**: the same for every input, under a policy without AllowUnsafe
    and without a raw-text element on its allowlist. -/
theorem C03_bytes_browser (p : Policy) (hp : PlainC p.ensureInit) (hreq : p.ensureInit.requireParseableURLs = true)
    (hnr : p.ensureInit.srcRewriter = none) (input : Bytes) :
    ∀ k ∈ tokenize (p.sanitizeCore input), (k.tt = .start ∨ k.tt = .selfClosing) →
      ∀ b ∈ k.attrs, Spec.isUrlPosition k.data b.key = true → BrowserOK p.ensureInit b.val :=
  C03_bytes_browser_on p hreq hnr input (hp.on _)

example :
    let p : Policy := { initialized := true, requireParseableURLs := true, allowURLSchemes := [(b!"https", [])] }
    p.validURL b!" HTTPS://Example.com/a b" = none ∧
    p.validURL b!" HTTPS://Example.com/a%20b " = some b!"https://Example.com/a%20b" ∧
    p.validURL b!"javascript:alert(1)" = none ∧ p.validURL b!"/rel" = none := by decide +kernel

/-- non-vacuity of the relative half: with relative URLs allowed, `./javascript:alert(1)` is accepted unchanged
    and relative for the classifier, `javascript:alert(1)` is refused, ` x/a:b?q#f ` is accepted trimmed and
    relative for the classifier -/
example :
    let p : Policy := { initialized := true, requireParseableURLs := true, allowRelativeURLs := true }
    p.validURL b!"./javascript:alert(1)" = some b!"./javascript:alert(1)" ∧
    Spec.classifyUrl b!"./javascript:alert(1)" = .relative ∧
    p.validURL b!"javascript:alert(1)" = none ∧
    p.validURL b!" x/a:b?q#f " = some b!"x/a:b?q#f" ∧ Spec.classifyUrl b!"x/a:b?q#f" = .relative := by decide +kernel

end BM.Props
