import BM.Props.C10
import BM.Proofs.AttrPass
import BM.Proofs.Prov
/-
  C10 composed: the style attribute in what `sanitizeAttrs` returns — and, for policies without AllowUnsafe
  or allowed raw-text elements, on every tag re-read from the returned bytes — is exactly `sanitizeStyles`
  of an input style value (whose declaration-by-declaration characterisation is `C10_sanitizeStyles`), and
  is never empty: a style attribute with nothing left is removed.
-/
namespace BM.Props
open BM BM.Html BM.Spec

/-- what C10 says of one attribute of element `el` -/
def StyleFiltered (p : Policy) (el : Bytes) (attrs : List Attr) (b : Attr) : Prop :=
  b.key = b!"style" → ∃ a ∈ attrs, a.key = b!"style" ∧ b.val = p.sanitizeStyles a.val el ∧ b.val ≠ []

theorem styleFiltered_passInv (p : Policy) (el : Bytes) (attrs : List Attr) : PassInv (StyleFiltered p el attrs) :=
  .of_added fun x hx hk => by
    rcases hx with h | h | h | h <;> rw [h] at hk <;> exact absurd hk (by decide)

/-- under style rules a style attribute leaves the first pass only through its style branch -/
theorem filterAttr_style (p : Policy) (el : Bytes) (aps : AttrRules) (a b : Attr)
    (h : p.filterAttr el aps true a = some b) (hk : b.key = b!"style") :
    a.key = b!"style" ∧ b.val = p.sanitizeStyles a.val el ∧ b.val ≠ [] := by
  rcases filterAttr_some h with ⟨hd, rfl⟩ | ⟨_, ⟨_, hv, rfl⟩ | ⟨hns, rfl, _⟩⟩
  · rw [Bool.and_eq_true, hk] at hd
    exact absurd hd.2 (by decide)
  · -- reduce `{ … }.val` first: left to the unifier, it unfolds `sanitizeStyles` on the way
    dsimp only
    exact ⟨hk, rfl, hv⟩
  · rw [hk] at hns
    exact absurd hns (by decide)

/-- **C10 for the whole of `sanitizeAttrs`**: when style rules apply to the element, every style
    attribute returned is the declaration-by-declaration filtering of an input style attribute
    and is not empty -/
theorem C10_sanitizeAttrs (p : Policy) (el : Bytes) (attrs : List Attr) (aps : AttrRules) (out : List Attr)
    (hs : p.hasStylePolicies el = true) (h : p.sanitizeAttrs el attrs aps = some out) :
    ∀ b ∈ out, StyleFiltered p el attrs b := by
  refine sanitizeAttrs_after_urlPass (styleFiltered_passInv p el attrs) p el attrs aps out h ?_
  intro mid hmid
  have hfirst : ∀ b ∈ mid, StyleFiltered p el attrs b := by
    intro b hb hk
    rw [hmid, hs] at hb
    obtain ⟨a, ha, hab⟩ := List.mem_filterMap.mp hb
    obtain ⟨h1, h2, h3⟩ := filterAttr_style p el aps a b hab hk
    exact ⟨a, ha, h1, h2, h3⟩
  constructor
  · intro _; exact hfirst
  · intro _ _ m2 hm2 b hb hk
    obtain ⟨a, ha, hab⟩ := mapMOpt_mem _ mid m2 hm2 b hb
    have hkey := urlPassAttr_key p el a b hab
    -- style is not a URL attribute: the URL pass hands it on unchanged
    have hsame : b = a := by
      have hka : a.key = b!"style" := hkey ▸ hk
      rw [urlPassAttr_off (by rw [isUrlPosition_eq, hka]; rfl)] at hab
      exact (Option.some.inj (Option.some.inj hab)).symm
    subst hsame
    exact hfirst b ha hk

/-- **C10 (byte level, per input)**: the same of every style attribute on a tag re-read from the returned bytes,
    for a style attribute of an input tag of that name -/
theorem C10_bytes_on (p : Policy) (input : Bytes) (hp : PlainOn p.ensureInit (tokenize input)) :
    ∀ k ∈ tokenize (p.sanitizeCore input), (k.tt = .start ∨ k.tt = .selfClosing) →
      p.ensureInit.hasStylePolicies k.data = true →
      ∀ b ∈ k.attrs, b.key = b!"style" →
        ∃ t ∈ tokenize input, t.data = k.data ∧ ∃ a ∈ t.attrs, a.key = b!"style" ∧
          b.val = p.ensureInit.sanitizeStyles a.val k.data ∧ b.val ≠ [] := by
  intro k hk htt hs b hb hkey
  obtain ⟨t, ht, aps, hd, _, hsan⟩ := reread_open_tagOn p input hp k hk htt (List.ne_nil_of_mem hb)
  obtain ⟨a, ha, h1, h2, h3⟩ := C10_sanitizeAttrs p.ensureInit k.data t.attrs aps k.attrs hs hsan b hb hkey
  exact ⟨t, ht, hd, a, ha, h1, h2, h3⟩

/-- **C10 (byte level)**: the same for every input, under a policy without AllowUnsafe and without a raw-text
    element on its allowlist -/
theorem C10_bytes (p : Policy) (hp : PlainC p.ensureInit) (input : Bytes) :
    ∀ k ∈ tokenize (p.sanitizeCore input), (k.tt = .start ∨ k.tt = .selfClosing) →
      p.ensureInit.hasStylePolicies k.data = true →
      ∀ b ∈ k.attrs, b.key = b!"style" →
        ∃ t ∈ tokenize input, t.data = k.data ∧ ∃ a ∈ t.attrs, a.key = b!"style" ∧
          b.val = p.ensureInit.sanitizeStyles a.val k.data ∧ b.val ≠ [] :=
  C10_bytes_on p input (hp.on _)

end BM.Props
