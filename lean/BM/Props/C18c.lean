import BM.Props.C18b
import BM.Props.C10c
/-
  C18 for whole policies, by induction over builder histories.  `C18_kept_declarations_clean` asks that
  every style rule which applies to an element accept clean values only; here that premise is discharged
  for every policy a program can build: start from `NewPolicy()`, make any calls at all — elements,
  attributes, URL rules, switches, and `AllowStyles(props…)` with any scope — provided every matcher a
  style call supplies itself (`Matching`, `MatchingEnum`, `MatchingHandler`) accepts clean values only.
  A call that supplies none gets the default handler of the property, which `C18_every_default_handler_clean`
  covers for every property and value, so a history without custom matchers needs no premise at all.
-/
namespace BM.Props
open BM BM.Golite

/-- every matcher the call installs accepts clean values only (calls that are not style calls install none) -/
def stylesCleanOnly : BuilderOp → Prop
  | .allowStyles _ m _ => ∀ prop, CleanOnly (mkStylePolicy defaultHandler m prop)
  | _ => True

/-- the call is not a style call, or is `AllowStyles(props…)` without `Matching…` -/
def defaultStylesOnly : BuilderOp → Prop
  | .allowStyles _ m _ => m.handler = none ∧ m.enum = [] ∧ m.re = none
  | _ => True

theorem stylesCleanOnly_of_default (op : BuilderOp) (h : defaultStylesOnly op) : stylesCleanOnly op := by
  cases op with
  | allowStyles names m scope =>
    obtain ⟨h1, h2, h3⟩ := h
    intro prop
    have e : mkStylePolicy defaultHandler m prop = mkStylePolicy defaultHandler {} prop := by
      simp [mkStylePolicy, h1, h2, h3]
    rw [e]
    exact default_matcher_cleanOnly_all prop
  | _ => trivial

/-- a style rule a call contributes, in whatever scope (the three of `StyleRuleByCall`), is `mkStylePolicy` of the
    call's own matcher -/
theorem cleanOnly_of_styleCall (T : Nat → Bytes → Bool) (op : BuilderOp) (h : stylesCleanOnly op) (el prop : Bytes)
    (sp : StylePolicy)
    (ha : op.addsElemStyle defaultHandler el prop sp ∨ op.addsGlobalStyle defaultHandler prop sp ∨
      ∃ r : Pat, T r.id el = true ∧ op.addsMatchStyle defaultHandler r prop sp) : CleanOnly sp := by
  cases op
  case allowStyles names m scope =>
    suffices sp = mkStylePolicy defaultHandler m prop from this ▸ h prop
    cases scope <;> rcases ha with ha | ha | ⟨_, _, ha⟩ <;> first | exact ha.2.2 | exact ha.2 | exact ha.elim
  all_goals rcases ha with ha | ha | ⟨_, _, ha⟩ <;> exact ha.elim

/-- **C18 for every policy built from one without rules** (`NewPolicy()` with its default sets included): after
    any history of builder calls whose own style matchers (if any) accept clean values only, on every element,
    every declaration `sanitizeStyles` keeps has a value that — lower-cased, escapes decoded — contains no
    backslash, angle bracket, at-sign, semicolon or brace.  (`T` is the behaviour of the compiled element
    patterns, by identity.) -/
theorem C18_built_clean_from (T : Nat → Bytes → Bool) {p0 : Policy} (h0 : p0.NoRules) (ops : List BuilderOp)
    (hpat : ∀ op ∈ ops, op.patsOK T) (hst : ∀ op ∈ ops, stylesCleanOnly op) (el : Bytes) (dec : Css.Decl)
    (h : (applyOps defaultHandler p0 ops).declAccepted ((applyOps defaultHandler p0 ops).styleRulesFor el) dec = true) :
    ∃ tv, removeUnicode (toLowerGo dec.value) = some tv ∧ Clean tv := by
  obtain ⟨tv, htv, sp, ⟨op, hop, hadd⟩, hok⟩ := C10_built_from T defaultHandler h0 ops hpat el dec h
  exact ⟨tv, htv, cleanOnly_of_styleCall T op (hst op hop) el _ sp hadd tv hok⟩

/-- … and with no premise on the matchers when the history supplies none: `AllowStyles(props…)` alone
    installs the default handlers, all of which accept clean values only -/
theorem C18_default_clean_from (T : Nat → Bytes → Bool) {p0 : Policy} (h0 : p0.NoRules) (ops : List BuilderOp)
    (hpat : ∀ op ∈ ops, op.patsOK T) (hdef : ∀ op ∈ ops, defaultStylesOnly op) (el : Bytes) (dec : Css.Decl)
    (h : (applyOps defaultHandler p0 ops).declAccepted ((applyOps defaultHandler p0 ops).styleRulesFor el) dec = true) :
    ∃ tv, removeUnicode (toLowerGo dec.value) = some tv ∧ Clean tv :=
  C18_built_clean_from T h0 ops hpat (fun op hop => stylesCleanOnly_of_default op (hdef op hop)) el dec h

/-- **the style attribute a default-built policy writes**: whatever the input value and the element, the new
    value of the style attribute is the `"; "`-join of `property ": " value` over declarations every one of
    which has a clean value (C10's shape with C18's content) -/
theorem C18_sanitizeStyles_clean_from (T : Nat → Bytes → Bool) {p0 : Policy} (h0 : p0.NoRules) (ops : List BuilderOp)
    (hpat : ∀ op ∈ ops, op.patsOK T) (hdef : ∀ op ∈ ops, defaultStylesOnly op) (val el : Bytes) :
    ∃ decs : List Css.Decl,
      (applyOps defaultHandler p0 ops).sanitizeStyles val el =
        joinBytes b!"; " (decs.map fun d => d.property ++ b!": " ++ d.value) ∧
      ∀ d ∈ decs, ∃ tv, removeUnicode (toLowerGo d.value) = some tv ∧ Clean tv := by
  rw [C10_sanitizeStyles]
  cases Css.parseDeclarations (styleSource val) with
  | none => exact ⟨[], rfl, fun d hd => nomatch hd⟩
  | some decs =>
    exact ⟨_, rfl, fun d hd => C18_default_clean_from T h0 ops hpat hdef el d (List.mem_filter.mp hd).2⟩

/-- the three, from the empty initialised policy -/
theorem C18_built_policy_clean (T : Nat → Bytes → Bool) (ops : List BuilderOp)
    (hpat : ∀ op ∈ ops, op.patsOK T) (hst : ∀ op ∈ ops, stylesCleanOnly op)
    (el : Bytes) (dec : Css.Decl)
    (h : (applyOps defaultHandler { initialized := true } ops).declAccepted
          ((applyOps defaultHandler { initialized := true } ops).styleRulesFor el) dec = true) :
    ∃ tv, removeUnicode (toLowerGo dec.value) = some tv ∧ Clean tv :=
  C18_built_clean_from T noRules_new ops hpat hst el dec h

theorem C18_default_policy_clean (T : Nat → Bytes → Bool) (ops : List BuilderOp)
    (hpat : ∀ op ∈ ops, op.patsOK T) (hdef : ∀ op ∈ ops, defaultStylesOnly op)
    (el : Bytes) (dec : Css.Decl)
    (h : (applyOps defaultHandler { initialized := true } ops).declAccepted
          ((applyOps defaultHandler { initialized := true } ops).styleRulesFor el) dec = true) :
    ∃ tv, removeUnicode (toLowerGo dec.value) = some tv ∧ Clean tv :=
  C18_default_clean_from T noRules_new ops hpat hdef el dec h

theorem C18_sanitizeStyles_clean (T : Nat → Bytes → Bool) (ops : List BuilderOp)
    (hpat : ∀ op ∈ ops, op.patsOK T) (hdef : ∀ op ∈ ops, defaultStylesOnly op) (val el : Bytes) :
    ∃ decs : List Css.Decl,
      (applyOps defaultHandler { initialized := true } ops).sanitizeStyles val el =
        joinBytes b!"; " (decs.map fun d => d.property ++ b!": " ++ d.value) ∧
      ∀ d ∈ decs, ∃ tv, removeUnicode (toLowerGo d.value) = some tv ∧ Clean tv :=
  C18_sanitizeStyles_clean_from T noRules_new ops hpat hdef val el

/-- the premises are met by a history that does install style rules, on an element and globally -/
example : (∀ op ∈ [BuilderOp.allowStyles [b!"color"] {} (.onElements [b!"span"]),
                   BuilderOp.allowStyles [b!"width"] {} .globally,
                   BuilderOp.allowElements [b!"p"]], defaultStylesOnly op) := by
  intro op hop
  simp only [List.mem_cons, List.not_mem_nil, or_false] at hop
  rcases hop with rfl | rfl | rfl <;> simp [defaultStylesOnly]

end BM.Props
