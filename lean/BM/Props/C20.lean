import BM.Props.C11
import BM.Proofs.Escape
import BM.Props.C03
import BM.Props.C04
import BM.Props.C07
import BM.Proofs.AttrNF
/-
  C20: re-sanitising sanitised output is a no-op, `S p (S p x) = S p x`.  Every token the first pass writes is
  conforming in the sense of `C07_bytes` as soon as the attribute list `sanitizeAttrs` returned for it is a fixed
  point of `sanitizeAttrs` (`C20_fix_gen`); the classes of policies below are those for which that is shown.  For
  policies that check URLs it needs a stability proviso for net/url's Parse∘String, which is false on Go 1.23 for
  some paths (`/%2f}` ↦ `//%7D`, which does not parse again): known finding `url-reprint-unstable`.  The property
  is checked end to end by the `idem` family.
-/
namespace BM.Props
open BM BM.Html BM.Spec

theorem addRelToken_idem (need : Bool) (tok v : Bytes) (hw : WsFree tok) :
    addRelToken need tok (addRelToken need tok v) = addRelToken need tok v := by
  cases need with
  | false => simp [addRelToken]
  | true => exact addRelToken_no_dup true tok _ (addRelToken_has tok v hw)

theorem relFix_id (nf nr : Bool) (a : Attr)
    (h1 : nf = true → a.key = b!"rel" → hasRelToken a.val b!"nofollow" = true)
    (h2 : nr = true → a.key = b!"rel" → hasRelToken a.val b!"noreferrer" = true) : relFix nf nr a = a := by
  unfold relFix
  split
  · rename_i hc
    simp only [Bool.and_eq_true, beq_iff_eq] at hc
    have e1 : addRelToken nf b!"nofollow" a.val = a.val := by
      cases nf with
      | false => rfl
      | true => exact addRelToken_no_dup _ _ _ (h1 rfl hc.1)
    have e2 : addRelToken nr b!"noreferrer" a.val = a.val := by
      cases nr with
      | false => rfl
      | true => exact addRelToken_no_dup _ _ _ (h2 rfl hc.1)
    rw [e1, e2]
  · rfl

theorem relFix_idem (nf nr : Bool) (a : Attr) : relFix nf nr (relFix nf nr a) = relFix nf nr a :=
  relFix_id nf nr _
    (fun hn hk => (relFix_tokens nf nr a (by rw [relFix_key] at hk; exact hk)).1 hn)
    (fun hn hk => (relFix_tokens nf nr a (by rw [relFix_key] at hk; exact hk)).2 hn)

theorem setVal_idem (k : Bytes) (v : Bytes) (a : Attr) :
    setVal k (fun _ => v) (setVal k (fun _ => v) a) = setVal k (fun _ => v) a := by
  unfold setVal
  split <;> rfl

/-- 60 is `<`: an escaped text has no tag opener, so read again it is text and nothing else -/
theorem escaped_text_stays_text (d : Bytes) : ∀ c ∈ escape d, c ≠ 60 :=
  fun c hc => (escape_no_special d c hc).1

/-- **C20 for StrictPolicy, byte level** (`bare_idempotent`, `strict_is_bare` of Props/C04: the output is one
    escaped string, which the tokenizer reads back as that string — `tokenize_escape` of Proofs/RtDoc,
    `unescape_escape` of Proofs/Escape — and which is then escaped to the same bytes) -/
theorem C20_strict (input : Bytes) :
    strictPolicy.sanitizeCore (strictPolicy.sanitizeCore input) = strictPolicy.sanitizeCore input :=
  bare_idempotent strict_is_bare input

/-- the attribute lists `sanitizeAttrs` returns are fixed points of it (for the elements a plain
    policy can emit, with the rules the policy has for them) -/
def AttrFix (p : Policy) : Prop :=
  ∀ (t : Token) (aps : AttrRules) (attrs : List Attr), isRawTagName t.data = false →
    p.attrRulesFor t.data = some aps → p.cleanAttrs t aps = some attrs →
    p.cleanAttrs { t with attrs := attrs } aps = some attrs

/-- the attribute list returned for `t` is reproduced when the tag written for `t` satisfies `G` -/
def AttrFixG (p : Policy) (G : Token → Prop) (t : Token) : Prop :=
  ∀ (aps : AttrRules) (attrs : List Attr), isRawTagName t.data = false →
    p.attrRulesFor t.data = some aps → p.cleanAttrs t aps = some attrs → G { t with attrs := attrs } →
    p.cleanAttrs { t with attrs := attrs } aps = some attrs

def isOpen (k : Token) : Prop := k.tt = .start ∨ k.tt = .selfClosing

/-- `AttrFixG` from a fixed-point statement about `sanitizeAttrs` (the guard of `cleanAttrs` repeats its first line) -/
theorem attrFixG_of_idem {p : Policy} {G : Token → Prop} {t : Token}
    (h : ∀ (out : List Attr) (aps : AttrRules), p.attrRulesFor t.data = some aps →
      p.sanitizeAttrs t.data t.attrs aps = some out → G { t with attrs := out } →
      p.sanitizeAttrs t.data out aps = some out) : AttrFixG p G t := by
  intro aps attrs _ haps hc hG
  rw [cleanAttrs_eq] at hc ⊢
  exact h attrs aps haps hc hG

theorem attrFix_of_idem {p : Policy}
    (h : ∀ (el : Bytes) (attrs out : List Attr) (aps : AttrRules), p.attrRulesFor el = some aps →
      p.sanitizeAttrs el attrs aps = some out → p.sanitizeAttrs el out aps = some out) : AttrFix p :=
  fun t aps attrs hnr haps hc =>
    attrFixG_of_idem (G := fun _ => True) (fun out aps haps hc _ => h t.data t.attrs out aps haps hc) aps attrs hnr haps hc
      trivial

theorem mem_coalesce_of_mem : ∀ (ts : List Token) (d : Bytes) (k : Token), k ∈ ts → k.tt ≠ .text → k ∈ coalesce d ts
  | [], _, _, h, _ => by simp at h
  | t :: ts, d, k, h, hk => by
    unfold coalesce
    rcases List.mem_cons.mp h with rfl | h
    · have : (k.tt == TT.text) = false := by
        revert hk; cases k.tt <;> intro hk <;> first | rfl | exact absurd rfl hk
      simp [this]
    · split
      · exact mem_coalesce_of_mem ts _ k h hk
      · simp only [List.mem_append, List.mem_cons]
        exact .inr (.inr (mem_coalesce_of_mem ts [] k h hk))

/-- what one iteration writes is the serialisation of tokens that the tokenizer reads back (`SegOK`) and that are
    conforming for the policy (`Conform`, the hypothesis of `C07_bytes`) as soon as `G` holds of the tags among them -/
theorem emit_conformG {p : Policy} (hu : p.allowUnsafe = false) (hnc : p.allowComments = false) (G : Token → Prop)
    {st : LoopState} {t : Token} (hraw : isRawTagName t.data = true → allowsElement p t.data = false)
    (hs : AttrFixG p G t) (hwf : TokWF t) {ws : List Write} (he : Emit p st t ws) :
    ∃ toks : List Token, ws.map (·.data) = toks.map Token.render ∧
      ∀ k ∈ toks, SegOK k ∧ ((isOpen k → G k) → Conform p k) := by
  have htext : ∀ d : Bytes, ∀ k ∈ [(⟨.text, d, []⟩ : Token)], SegOK k ∧ ((isOpen k → G k) → Conform p k) := by
    intro d k hk
    rw [List.mem_singleton.mp hk]
    exact ⟨trivial, fun _ => ⟨trivial, trivial⟩⟩
  cases he with
  | nothing => exact ⟨[], rfl, by simp⟩
  | space _ => exact ⟨[⟨.text, [32], []⟩], by simp [render_space], htext _⟩
  | comment _ hc => rw [hnc] at hc; cases hc
  | openTag aps attrs htt haps hss hattrs hbare _ =>
    have hnss : isScriptOrStyle t.data = false := by simpa [hu] using hss
    have hb : attrs ≠ [] ∨ p.allowNoAttrs t.data = true := by
      cases attrs with
      | nil => right; simpa using hbare
      | cons _ _ => left; simp
    have hnr := not_raw_of_rules haps hraw
    have hseg := segOK_cleaned hwf htt haps hraw hattrs
    refine ⟨[{ t with attrs := attrs }], by simp, fun k hk => ?_⟩
    rw [List.mem_singleton.mp hk]
    exact ⟨hseg, fun hG => conform_open htt hseg hnss haps (hs aps attrs hnr haps hattrs (hG htt)) hb⟩
  | closeTag htt hss hall =>
    have hnss : isScriptOrStyle t.data = false := by simpa [hu] using hss
    have hseg : SegOK t := segOK_of_end htt hwf
    refine ⟨[t], by simp, fun k hk => ?_⟩
    rw [List.mem_singleton.mp hk]
    refine ⟨hseg, fun _ => ⟨hseg, ?_⟩⟩
    simp only [htt]
    refine ⟨hnss, ?_⟩
    unfold Policy.patternEl Policy.explicitEl
    cases hc : p.elsAndAttrs.contains t.data with
    | true => left; rfl
    | false => right; simpa [hc] using hall
  | text htt _ _ => exact ⟨[⟨.text, t.data, []⟩], by simp [Token.render, htt], htext _⟩
  | rawText _ hun _ => rw [hu] at hun; cases hun

theorem run_conformG {p : Policy} (hu : p.allowUnsafe = false) (hnc : p.allowComments = false) (G : Token → Prop)
    (ts : List Token) (hraw : ∀ t ∈ ts, isRawTagName t.data = true → allowsElement p t.data = false)
    (hs : ∀ t ∈ ts, AttrFixG p G t) (hwf : ∀ t ∈ ts, TokWF t) :
    ∀ st, ∃ toks : List Token, (p.run st ts).1.map (·.data) = toks.map Token.render ∧
      ∀ k ∈ toks, SegOK k ∧ ((isOpen k → G k) → Conform p k) := by
  intro st
  obtain ⟨toks, hr, hk⟩ := run_lift (R := fun _ k => SegOK k ∧ ((isOpen k → G k) → Conform p k)) ts
    (fun t ht _ _ he => emit_conformG hu hnc G (hraw t ht) (hs t ht) (hwf t ht) he) st
  exact ⟨toks, hr, fun k hk' => (hk k hk').elim fun _ h => h.2⟩

/-- **C20 (byte level) whenever the attribute pass reproduces its results**, in the form the others are read off:
    the policy has no AllowUnsafe and no comments, no raw-text tag of *this input* names an allowed element, `G` holds
    of every start / self-closing tag an HTML tokenizer reads from `Sanitize(x)`, and for every input tag the
    attribute list the sanitiser returns is reproduced whenever the tag written satisfies `G`.  Then
    `Sanitize(Sanitize(x)) = Sanitize(x)`: escaping is not applied twice, kept tags are kept as they are, nothing
    is re-ordered. -/
theorem C20_fix_gen (p : Policy) (G : Token → Prop) (input : Bytes) (hu : p.ensureInit.allowUnsafe = false)
    (hnc : p.ensureInit.allowComments = false)
    (hraw : ∀ t ∈ tokenize input, isRawTagName t.data = true → allowsElement p.ensureInit t.data = false)
    (hs : ∀ t ∈ tokenize input, AttrFixG p.ensureInit G t)
    (hG : ∀ k ∈ tokenize (p.sanitizeCore input), isOpen k → G k) :
    p.sanitizeCore (p.sanitizeCore input) = p.sanitizeCore input := by
  obtain ⟨toks, hr, hconf⟩ := run_conformG hu hnc G (tokenize input) hraw hs (tokenize_wf input) {}
  have hb : p.sanitizeCore input = renderAll toks := sanitizeTokens_of_writes hr
  have hrt : tokenize (p.sanitizeCore input) = coalesce [] toks := by
    rw [hb]; exact tokenize_renderAll toks fun k hk => (hconf k hk).1
  rw [hb]
  apply C07_bytes p toks
  intro k hk
  refine (hconf k hk).2 fun ho => hG k ?_ ho
  rw [hrt]
  apply mem_coalesce_of_mem toks [] k hk
  rcases ho with h | h <;> rw [h] <;> decide

/-- **C20 relative to a fact about the first pass's output**, for a plain policy: if `G` holds of every start /
    self-closing tag an HTML tokenizer reads from `Sanitize(x)`, and for every input tag the attribute list the
    sanitiser returns is reproduced whenever the tag written satisfies `G`, then
    `Sanitize(Sanitize(x)) = Sanitize(x)` -/
theorem C20_fix_out (p : Policy) (hp : Plain p.ensureInit) (G : Token → Prop) (input : Bytes)
    (hs : ∀ t ∈ tokenize input, AttrFixG p.ensureInit G t)
    (hG : ∀ k ∈ tokenize (p.sanitizeCore input), isOpen k → G k) :
    p.sanitizeCore (p.sanitizeCore input) = p.sanitizeCore input :=
  C20_fix_gen p G input hp.noUnsafe hp.noComments (fun t _ => hp.noRaw t.data) hs hG

theorem AttrFix.toG {p : Policy} (hs : AttrFix p) (t : Token) : AttrFixG p (fun _ => True) t :=
  fun aps attrs hnr haps hc _ => hs t aps attrs hnr haps hc

theorem run_conform {p : Policy} (hp : Plain p) (hs : AttrFix p) (ts : List Token) (hwf : ∀ t ∈ ts, TokWF t) :
    ∀ st, ∃ toks : List Token, (p.run st ts).1.map (·.data) = toks.map Token.render ∧ ∀ k ∈ toks, Conform p k := by
  intro st
  obtain ⟨toks, hr, hc⟩ := run_conformG hp.noUnsafe hp.noComments (fun _ => True) ts (fun t _ => hp.noRaw t.data)
    (fun t _ => hs.toG t) hwf st
  exact ⟨toks, hr, fun k hk => (hc k hk).2 fun _ => trivial⟩

/-- **C20 (byte level) for plain policies whose attribute pass has fixed points**: sanitising
    the output again returns it unchanged, for every input — escaping is not applied twice, kept
    tags are kept as they are, nothing is re-ordered. -/
theorem C20_fix (p : Policy) (hp : Plain p.ensureInit) (hs : AttrFix p.ensureInit) (input : Bytes) :
    p.sanitizeCore (p.sanitizeCore input) = p.sanitizeCore input :=
  C20_fix_out p hp (fun _ => True) input (fun t _ => hs.toG t) (fun _ _ _ => trivial)

/-- **per input**: `C20_fix` asks that the policy allow no raw-text element at all; here the hypothesis is on the
    run — no AllowUnsafe and no raw-text tag *of this input* names an allowed element (`PlainOn`), and no comments.  So
    a policy that allows `textarea`, `title` or `iframe` is covered on every input in which those elements do not
    occur; likewise for the classes below (`C20_simple_on`, …) -/
theorem C20_fix_on (p : Policy) (input : Bytes) (hp : PlainOn p.ensureInit (tokenize input))
    (hnc : p.ensureInit.allowComments = false) (hs : AttrFix p.ensureInit) :
    p.sanitizeCore (p.sanitizeCore input) = p.sanitizeCore input :=
  C20_fix_gen p (fun _ => True) input hp.noUnsafe hnc hp.noRaw (fun t _ => hs.toG t) (fun _ _ _ => trivial)

/-- the per-input class is wider: a policy that allows `textarea` is not plain, but is `PlainOn` an input
    without one -/
example :
    let p : Policy := { initialized := true, elsAndAttrs := [(b!"b", []), (b!"textarea", [])],
                        setOfElementsAllowedWithoutAttrs := [b!"b", b!"textarea"] }
    PlainOn p.ensureInit (tokenize b!"x<b>y</b><i>z</i>") ∧ allowsElement p.ensureInit b!"textarea" = true := by
  refine ⟨⟨rfl, ?_⟩, by decide⟩
  decide

/-- the normal form when neither the URL pass nor a link option nor the sandbox block is on, on an element without
    style rules: filtering, then the forced crossorigin -/
theorem filterOnly_sanitizeAttrs (p : Policy) (hu : p.requireParseableURLs = false) (hl : anyLinkOption p = false)
    (hsb : p.requireSandboxOnIFrame = none) (el : Bytes) (hst : p.hasStylePolicies el = false)
    (attrs : List Attr) (aps : AttrRules) :
    p.sanitizeAttrs el attrs aps =
      some (let c := attrs.filter fun a => (p.filterAttr el aps false a).isSome
            if c.isEmpty then c else p.forceCrossOrigin el c) := by
  rw [sanitizeAttrs_nf p el hst]
  simp only [urlStage_off p hu, Option.map_some, Policy.later, Policy.forceSandbox, hsb, hardenStage_off p hl]
  split
  · rename_i he; rw [List.isEmpty_iff.mp he]
  · rfl

theorem forceKey_refilter {acc : Attr → Bool} {k w : Bytes} (hb : ∀ v v', acc ⟨k, v⟩ = acc ⟨k, v'⟩)
    {l : List Attr} (hl : ∀ a ∈ l, acc a = true) :
    l.length ≤ ((forceKey k (fun _ => w) w l).filter acc).length ∧
    forceKey k (fun _ => w) w ((forceKey k (fun _ => w) w l).filter acc) = forceKey k (fun _ => w) w l := by
  unfold forceKey
  cases hany : l.any (·.key == k)
  · -- one is appended: the filter keeps or strips it, and it is there again afterwards
    have hid : l.map (setVal k fun _ => w) = l :=
      (List.map_congr_left fun a ha => setVal_other k _ a (by simpa using List.any_eq_false.mp hany a ha)).trans
        (List.map_id' l)
    simp only [Bool.false_eq_true, ↓reduceIte, List.filter_append, List.filter_eq_self.mpr hl, List.filter_cons,
      List.filter_nil]
    cases acc ⟨k, w⟩
    · simp only [Bool.false_eq_true, ↓reduceIte, List.append_nil, hany, Nat.le_refl, and_self]
    · simp only [↓reduceIte, List.any_append, List.any_cons, beq_self_eq_true, Bool.true_or, Bool.or_true,
        List.map_append, hid, List.length_append, Nat.le_add_right, true_and, List.map_cons, List.map_nil, setVal,
        beq_self_eq_true]
  · -- the values are overwritten in place, which the predicate does not see
    have hacc : ∀ a ∈ l.map (setVal k fun _ => w), acc a = true := by
      intro a ha
      obtain ⟨x, hx, rfl⟩ := List.mem_map.mp ha
      by_cases hk : x.key = k
      · rw [acc_congr_key (acc := acc) (a := x) (by rw [hk]; exact hb) (setVal_key _ _ x)]
        exact hl x hx
      · rw [setVal_other k _ x hk]
        exact hl x hx
    simp only [↓reduceIte, List.filter_eq_self.mpr hacc, any_key_map (setVal_key k _), hany, List.map_map,
      List.length_map, Nat.le_refl, true_and]
    exact List.map_congr_left fun a _ => setVal_idem k w a

/-- the crossorigin fixed point with the value-blindness asked only when the block can run -/
theorem cross_idem_gen (p : Policy) (hu : p.requireParseableURLs = false) (hl : anyLinkOption p = false)
    (hsb : p.requireSandboxOnIFrame = none) (el : Bytes) (hst : p.hasStylePolicies el = false)
    (attrs out : List Attr) (aps : AttrRules)
    (hblind : p.requireCrossOriginAnonymous = true → isCrossOriginElement el = true → ∀ v v',
      (p.filterAttr el aps false ⟨b!"crossorigin", v⟩).isSome = (p.filterAttr el aps false ⟨b!"crossorigin", v'⟩).isSome)
    (h : p.sanitizeAttrs el attrs aps = some out) :
    p.sanitizeAttrs el out aps = some out := by
  rw [filterOnly_sanitizeAttrs p hu hl hsb el hst] at h ⊢
  simp only [Option.some.injEq] at h ⊢
  generalize hacc : (fun a => (p.filterAttr el aps false a).isSome) = acc at h ⊢
  have hblind : p.requireCrossOriginAnonymous = true → isCrossOriginElement el = true →
      ∀ v v', acc ⟨b!"crossorigin", v⟩ = acc ⟨b!"crossorigin", v'⟩ := by
    intro h1 h2 v v'; rw [← hacc]; exact hblind h1 h2 v v'
  have hc : ∀ a ∈ attrs.filter acc, acc a = true := fun a ha => (List.mem_filter.mp ha).2
  generalize attrs.filter acc = c at h hc
  subst h
  cases c with
  | nil => rfl
  | cons x xs =>
    simp only [List.isEmpty_cons, Bool.false_eq_true, ↓reduceIte]
    rw [forceCrossOrigin_eq]
    split
    · rename_i hg
      have hg' := hg
      simp only [List.length_cons, Nat.zero_lt_succ, decide_true, Bool.and_true, Bool.and_eq_true] at hg'
      obtain ⟨hlen, hre⟩ := forceKey_refilter (w := b!"anonymous") (hblind hg'.1 hg'.2) hc
      generalize (forceKey b!"crossorigin" (fun _ => b!"anonymous") b!"anonymous" (x :: xs)).filter acc = K at hlen hre
      cases K with
      | nil => cases hlen
      | cons y ys =>
        simp only [List.length_cons, Nat.zero_lt_succ, decide_true, Bool.and_true] at hg
        simp only [List.isEmpty_cons, Bool.false_eq_true, ↓reduceIte, forceCrossOrigin_eq, List.length_cons,
          Nat.zero_lt_succ, decide_true, Bool.and_true, hg, hre]
    · rename_i hg
      rw [List.filter_eq_self.mpr hc]
      simp only [List.isEmpty_cons, Bool.false_eq_true, ↓reduceIte, forceCrossOrigin_eq, hg]

/-- a policy whose attribute handling is pure filtering: no URL checking (hence no link
    hardening), no style rules, no forced crossorigin / sandbox -/
structure AttrSimple (p : Policy) : Prop where
  noUrl : p.requireParseableURLs = false
  noFollow : p.requireNoFollow = false
  noFollowFQ : p.requireNoFollowFullyQualifiedLinks = false
  noReferrer : p.requireNoReferrer = false
  noReferrerFQ : p.requireNoReferrerFullyQualifiedLinks = false
  noBlank : p.addTargetBlankToFullyQualifiedLinks = false
  noStyle : ∀ el, p.hasStylePolicies el = false
  noCross : p.requireCrossOriginAnonymous = false
  noSandbox : p.requireSandboxOnIFrame = none

theorem AttrSimple.noLink {p : Policy} (hs : AttrSimple p) : anyLinkOption p = false :=
  anyLinkOption_off hs.noFollow hs.noFollowFQ hs.noReferrer hs.noReferrerFQ hs.noBlank

theorem simple_sanitizeAttrs (p : Policy) (hs : AttrSimple p) (el : Bytes) (attrs : List Attr) (aps : AttrRules) :
    p.sanitizeAttrs el attrs aps = some (attrs.filter fun a => (p.filterAttr el aps false a).isSome) := by
  rw [filterOnly_sanitizeAttrs p hs.noUrl hs.noLink hs.noSandbox el (hs.noStyle el)]
  simp only [Policy.forceCrossOrigin, hs.noCross, Bool.false_and, Bool.false_eq_true, ↓reduceIte, ite_self]

theorem simple_cleanAttrs_idem (p : Policy) (hs : AttrSimple p) (t : Token) (aps : AttrRules) (attrs : List Attr)
    (h : p.cleanAttrs t aps = some attrs) : p.cleanAttrs { t with attrs := attrs } aps = some attrs := by
  rw [cleanAttrs_eq] at h ⊢
  exact cross_idem_gen p hs.noUrl hs.noLink hs.noSandbox t.data (hs.noStyle _) t.attrs attrs aps
    (fun hc => by rw [hs.noCross] at hc; cases hc) h

theorem attrFix_of_simple (p : Policy) (hs : AttrSimple p) : AttrFix p :=
  fun t aps attrs _ _ h => simple_cleanAttrs_idem p hs t aps attrs h

/-- **C20 (byte level) for plain, attribute-simple policies** -/
theorem C20_simple (p : Policy) (hp : Plain p.ensureInit) (hs : AttrSimple p.ensureInit) (input : Bytes) :
    p.sanitizeCore (p.sanitizeCore input) = p.sanitizeCore input :=
  C20_fix p hp (attrFix_of_simple _ hs) input

theorem C20_simple_on (p : Policy) (input : Bytes) (hp : PlainOn p.ensureInit (tokenize input))
    (hnc : p.ensureInit.allowComments = false) (hs : AttrSimple p.ensureInit) :
    p.sanitizeCore (p.sanitizeCore input) = p.sanitizeCore input :=
  C20_fix_on p input hp hnc (attrFix_of_simple _ hs)

/-- like `AttrSimple`, but `RequireCrossOriginAnonymous` may be on; no rule attaches a value
    pattern to `crossorigin` (acceptance of that attribute does not depend on its value) -/
structure CrossSimple (p : Policy) : Prop where
  noUrl : p.requireParseableURLs = false
  noFollow : p.requireNoFollow = false
  noFollowFQ : p.requireNoFollowFullyQualifiedLinks = false
  noReferrer : p.requireNoReferrer = false
  noReferrerFQ : p.requireNoReferrerFullyQualifiedLinks = false
  noBlank : p.addTargetBlankToFullyQualifiedLinks = false
  noStyle : ∀ el, p.hasStylePolicies el = false
  noSandbox : p.requireSandboxOnIFrame = none
  blind : ∀ el aps, p.attrRulesFor el = some aps → ∀ v v',
    (p.filterAttr el aps false ⟨b!"crossorigin", v⟩).isSome = (p.filterAttr el aps false ⟨b!"crossorigin", v'⟩).isSome

theorem CrossSimple.noLink {p : Policy} (hs : CrossSimple p) : anyLinkOption p = false :=
  anyLinkOption_off hs.noFollow hs.noFollowFQ hs.noReferrer hs.noReferrerFQ hs.noBlank

/-- C20's clause "forced attributes re-derive identically", for crossorigin -/
theorem cross_sanitizeAttrs_idem (p : Policy) (hs : CrossSimple p) (el : Bytes) (attrs out : List Attr) (aps : AttrRules)
    (haps : p.attrRulesFor el = some aps) (h : p.sanitizeAttrs el attrs aps = some out) :
    p.sanitizeAttrs el out aps = some out :=
  cross_idem_gen p hs.noUrl hs.noLink hs.noSandbox el (hs.noStyle el) attrs out aps (fun _ _ => hs.blind el aps haps) h

theorem attrFix_of_cross (p : Policy) (hs : CrossSimple p) : AttrFix p :=
  attrFix_of_idem (cross_sanitizeAttrs_idem p hs)

/-- **C20 (byte level) with forced crossorigin**: for every plain `CrossSimple` policy (no URL checking, link
    options, style rules or forced sandbox; with or without `RequireCrossOriginAnonymous`; no value pattern
    on `crossorigin`), sanitising the output again returns it unchanged — the forced attribute is neither
    repeated nor moved -/
theorem C20_crossorigin (p : Policy) (hp : Plain p.ensureInit) (hs : CrossSimple p.ensureInit) (input : Bytes) :
    p.sanitizeCore (p.sanitizeCore input) = p.sanitizeCore input :=
  C20_fix p hp (attrFix_of_cross _ hs) input

theorem C20_crossorigin_on (p : Policy) (input : Bytes) (hp : PlainOn p.ensureInit (tokenize input))
    (hnc : p.ensureInit.allowComments = false) (hs : CrossSimple p.ensureInit) :
    p.sanitizeCore (p.sanitizeCore input) = p.sanitizeCore input :=
  C20_fix_on p input hp hnc (attrFix_of_cross _ hs)

/-- non-vacuity: a policy with elements and an attribute rule that is attribute-simple -/
example :
    let p : Policy := { initialized := true, elsAndAttrs := [(b!"b", []), (b!"a", [(b!"title", [none])])],
                        setOfElementsAllowedWithoutAttrs := [b!"b"] }
    AttrSimple p.ensureInit := by
  refine ⟨rfl, rfl, rfl, rfl, rfl, rfl, ?_, rfl, rfl⟩
  intro el
  simp [Policy.hasStylePolicies, Policy.ensureInit, Map.get?]

example : addRelToken true b!"nofollow" (addRelToken true b!"nofollow" b!"author") = b!"author nofollow" := by decide

/-- non-vacuity of `C20_crossorigin`: a policy with RequireCrossOriginAnonymous that is in the class;
    the forced attribute appears once, also on the second pass -/
example :
    let p : Policy := { initialized := true, requireCrossOriginAnonymous := true,
                        elsAndAttrs := [(b!"b", []), (b!"img", [(b!"alt", [none]), (b!"crossorigin", [none])])],
                        setOfElementsAllowedWithoutAttrs := [b!"b"] }
    CrossSimple p.ensureInit ∧
    p.sanitizeCore b!"<img alt=x><b>t</b>" = b!"<img alt=\"x\" crossorigin=\"anonymous\"><b>t</b>" ∧
    p.sanitizeCore b!"<img crossorigin=use-credentials alt=x>" = b!"<img crossorigin=\"anonymous\" alt=\"x\">" := by
  refine ⟨⟨rfl, rfl, rfl, rfl, rfl, rfl, ?_, rfl, ?_⟩, by decide +kernel, by decide +kernel⟩
  · intro el
    simp [Policy.hasStylePolicies, Policy.ensureInit, Map.get?]
  · intro el aps h v v'
    have haps : aps = [] ∨ aps = [(b!"alt", [none]), (b!"crossorigin", [none])] := by
      simp only [Policy.ensureInit, Policy.attrRulesFor, Map.get?, Policy.matchRegex, ↓reduceIte] at h
      by_cases h1 : (b!"b" == el) = true
      · simp only [h1, ↓reduceIte] at h; cases h; exact .inl rfl
      · by_cases h2 : (b!"img" == el) = true
        · simp only [h1, h2, ↓reduceIte] at h; cases h; exact .inr rfl
        · simp [h1, h2] at h
    rcases haps with rfl | rfl
    · simp [Policy.filterAttr, Policy.ensureInit, Map.get?]
    · simp [Policy.filterAttr, Policy.ensureInit, Map.get?, attrPoliciesAccept]

/-- **URL normalisation is stable on this attribute list**: every value at the element's URL attribute is
    returned unchanged by the URL check.  This is the form in which the proviso of C20 is used — a statement about
    the URLs that actually occur in `Sanitize(x)`, not about all URLs (for which it is false of net/url: the known
    finding `url-reprint-unstable`) -/
def UrlStableOn (p : Policy) (el : Bytes) (l : List Attr) : Prop :=
  ∀ b ∈ l, urlKeyFor el = some b.key → p.validURL b.val = some b.val


/-- the whole-policy form of the proviso gives the form about the result: the URL values of a result of
    `sanitizeAttrs` are `validURL` results (`C03_sanitizeAttrs`) -/
theorem stableOn_of_stable (p : Policy) (hr : p.srcRewriter = none)
    (stable : ∀ v v', p.validURL v = some v' → p.validURL v' = some v')
    {el : Bytes} {attrs out : List Attr} {aps : AttrRules} (h : p.sanitizeAttrs el attrs aps = some out) :
    UrlStableOn p el out := by
  intro b hb hkey
  cases hreq : p.requireParseableURLs with
  | false => simp [Policy.validURL, hreq]
  | true =>
    obtain ⟨raw, hraw⟩ := C03_sanitizeAttrs p hreq el attrs aps out h b hb ((urlKeyFor_iff el b.key).mp hkey)
      (fun _ => hr)
    exact stable raw b.val hraw

/-- the options `LinkSimple` asks to be off, for one element -/
structure LinkCoreAt (p : Policy) (el : Bytes) : Prop where
  noStyle : p.hasStylePolicies el = false
  noCross : p.requireCrossOriginAnonymous = false
  noSandbox : p.requireSandboxOnIFrame = none
  noRewriter : p.srcRewriter = none

/-- … and the rules let neither rel nor target through on a link element -/
structure LinkBaseAt (p : Policy) (el : Bytes) : Prop extends LinkCoreAt p el where
  noRelTarget : ∀ aps, p.attrRulesFor el = some aps → isHrefElement el = true → ∀ v,
    (p.filterAttr el aps false ⟨b!"rel", v⟩).isSome = false ∧ (p.filterAttr el aps false ⟨b!"target", v⟩).isSome = false


theorem sanitizeAttrs_fixed_stable {p : Policy} {el : Bytes} (hs : LinkCoreAt p el) (out : List Attr) (aps : AttrRules)
    (hstab : UrlStableOn p el out)
    (hh : p.hardenStage el (out.filter fun a => (p.filterAttr el aps false a).isSome) = out) :
    p.sanitizeAttrs el out aps = some out :=
  sanitizeAttrs_fixed_of p el hs.noStyle hs.noCross hs.noSandbox out aps
    (fun _ a ha => urlPass_fixed p hs.noRewriter el a (hstab a (List.mem_filter.mp ha).1)) hh

/-- `u` is the list the hardening stage ran on in the first application.  The URL pass has replaced the value of
    the URL attribute in it by its `validURL` result, so that the rules accept it again needs `hblind`: they do
    not look at that value, or no such attribute is left -/
theorem first_accepted {p : Policy} {el : Bytes} (hs : LinkCoreAt p el) {attrs out : List Attr} {aps : AttrRules}
    (h : p.sanitizeAttrs el attrs aps = some out)
    (hblind : ∀ k, urlKeyFor el = some k →
      (∀ v v', (p.filterAttr el aps false ⟨k, v⟩).isSome = (p.filterAttr el aps false ⟨k, v'⟩).isSome) ∨
      (isHrefElement el = false ∧ ∀ b ∈ out, b.key ≠ k)) :
    ∃ u, out = p.hardenStage el u ∧ ∀ b ∈ u, (p.filterAttr el aps false b).isSome = true := by
  obtain ⟨u, hout, hu⟩ := sanitizeAttrs_first hs.noStyle hs.noCross hs.noSandbox hs.noRewriter h
  refine ⟨u, hout, fun b hb => ?_⟩
  obtain ⟨a, _, hacc, hk, rfl | ⟨hkey, _⟩⟩ := hu b hb
  · exact hacc
  · rcases hblind a.key hkey with hbl | ⟨hnh, hno⟩
    · rw [acc_congr_key (acc := fun a => (p.filterAttr el aps false a).isSome) hbl hk]
      exact hacc
    · rw [hardenStage_not_href p el hnh] at hout
      exact absurd hk (hno b (hout ▸ hb))

/-- **the fixed point of the link and URL classes**: the second application reproduces `out` when the rules do not
    look at the URL value (`hblind`, as in `first_accepted`), the URLs of `out` are stable, and the hardening stage
    makes its result again from what the rules keep of it (`hre`) -/
theorem link_idem_of {p : Policy} {el : Bytes} (hs : LinkCoreAt p el) {attrs out : List Attr} {aps : AttrRules}
    (h : p.sanitizeAttrs el attrs aps = some out)
    (hblind : ∀ k, urlKeyFor el = some k →
      (∀ v v', (p.filterAttr el aps false ⟨k, v⟩).isSome = (p.filterAttr el aps false ⟨k, v'⟩).isSome) ∨
      (isHrefElement el = false ∧ ∀ b ∈ out, b.key ≠ k))
    (hstab : UrlStableOn p el out)
    (hre : ∀ u : List Attr, (∀ b ∈ u, (p.filterAttr el aps false b).isSome = true) →
      p.hardenStage el ((p.hardenStage el u).filter fun a => (p.filterAttr el aps false a).isSome) = p.hardenStage el u) :
    p.sanitizeAttrs el out aps = some out := by
  obtain ⟨u, hout, hu⟩ := first_accepted hs h hblind
  refine sanitizeAttrs_fixed_stable hs out aps hstab ?_
  rw [hout]
  exact hre u hu

/-- a policy whose attribute handling is filtering plus the URL pass: no link options, no style rules,
    no forced crossorigin / sandbox, no src rewriter; the rules attach no value pattern to the URL
    attributes (`blind`); and — the part that belongs to net/url — what `validURL` returns it returns
    unchanged when it is given back (`stable`) -/
structure UrlSimple (p : Policy) : Prop where
  noFollow : p.requireNoFollow = false
  noFollowFQ : p.requireNoFollowFullyQualifiedLinks = false
  noReferrer : p.requireNoReferrer = false
  noReferrerFQ : p.requireNoReferrerFullyQualifiedLinks = false
  noBlank : p.addTargetBlankToFullyQualifiedLinks = false
  noStyle : ∀ el, p.hasStylePolicies el = false
  noCross : p.requireCrossOriginAnonymous = false
  noSandbox : p.requireSandboxOnIFrame = none
  noRewriter : p.srcRewriter = none
  blind : ∀ el aps, p.attrRulesFor el = some aps → ∀ k v v', (k = b!"href" ∨ k = b!"cite" ∨ k = b!"src") →
    (p.filterAttr el aps false ⟨k, v⟩).isSome = (p.filterAttr el aps false ⟨k, v'⟩).isSome
  stable : ∀ v v', p.validURL v = some v' → p.validURL v' = some v'

theorem UrlSimple.core {p : Policy} (hs : UrlSimple p) (el : Bytes) : LinkCoreAt p el :=
  ⟨hs.noStyle el, hs.noCross, hs.noSandbox, hs.noRewriter⟩

theorem urlPassAttr_fix (p : Policy) (hs : UrlSimple p) (el : Bytes) (a b : Attr) (h : p.urlPassAttr el a = some (some b)) :
    p.urlPassAttr el b = some (some b) :=
  urlPassAttr_fix_of p hs.noRewriter el a b (hs.stable _) h

theorem url_sanitizeAttrs_idem (p : Policy) (hs : UrlSimple p) (el : Bytes) (attrs out : List Attr) (aps : AttrRules)
    (haps : p.attrRulesFor el = some aps) (h : p.sanitizeAttrs el attrs aps = some out) :
    p.sanitizeAttrs el out aps = some out := by
  have hoff := hardenStage_off p (anyLinkOption_off hs.noFollow hs.noFollowFQ hs.noReferrer hs.noReferrerFQ hs.noBlank) el
  exact link_idem_of (hs.core el) h (fun k hk => .inl fun v v' => hs.blind el aps haps k v v' (urlKeyFor_mem el k hk))
    (stableOn_of_stable p hs.noRewriter hs.stable h) fun u hu => by rw [hoff, hoff, List.filter_eq_self.mpr hu]

theorem attrFix_of_url (p : Policy) (hs : UrlSimple p) : AttrFix p :=
  attrFix_of_idem (url_sanitizeAttrs_idem p hs)

/-- **C20, policies that check URLs** (plain and `UrlSimple`): sanitising twice is sanitising once, for every
    input, provided URL normalisation is stable — `validURL` returns unchanged what it returned before.
    That proviso is exactly the part of the clause that belongs to net/url (on Go 1.23 it fails for
    paths such as `/%2f}`: the known finding `url-reprint-unstable`) -/
theorem C20_urls (p : Policy) (hp : Plain p.ensureInit) (hs : UrlSimple p.ensureInit) (input : Bytes) :
    p.sanitizeCore (p.sanitizeCore input) = p.sanitizeCore input :=
  C20_fix p hp (attrFix_of_url _ hs) input

theorem C20_urls_on (p : Policy) (input : Bytes) (hp : PlainOn p.ensureInit (tokenize input))
    (hnc : p.ensureInit.allowComments = false) (hs : UrlSimple p.ensureInit) :
    p.sanitizeCore (p.sanitizeCore input) = p.sanitizeCore input :=
  C20_fix_on p input hp hnc (attrFix_of_url _ hs)

/-- `UrlSimple` with link options allowed, for policies whose rules accept no `rel` and no `target`
    attribute on the elements the options apply to: what the options add is stripped by the second pass
    and added again, identically -/
structure LinkSimple (p : Policy) : Prop where
  noStyle : ∀ el, p.hasStylePolicies el = false
  noCross : p.requireCrossOriginAnonymous = false
  noSandbox : p.requireSandboxOnIFrame = none
  noRewriter : p.srcRewriter = none
  blind : ∀ el aps, p.attrRulesFor el = some aps → ∀ k v v', (k = b!"href" ∨ k = b!"cite" ∨ k = b!"src") →
    (p.filterAttr el aps false ⟨k, v⟩).isSome = (p.filterAttr el aps false ⟨k, v'⟩).isSome
  stable : ∀ v v', p.validURL v = some v' → p.validURL v' = some v'
  noRelTarget : ∀ el aps, p.attrRulesFor el = some aps → isHrefElement el = true → ∀ v,
    (p.filterAttr el aps false ⟨b!"rel", v⟩).isSome = false ∧ (p.filterAttr el aps false ⟨b!"target", v⟩).isSome = false

def isRelOrTarget (a : Attr) : Bool := a.key == b!"rel" || a.key == b!"target"

theorem any_key_false (u : List Attr) (k : Bytes) (hk : k = b!"rel" ∨ k = b!"target")
    (h : ∀ a ∈ u, isRelOrTarget a = false) : u.any (·.key == k) = false := by
  rw [List.any_eq_false]
  intro a ha
  have := h a ha
  simp only [isRelOrTarget, Bool.or_eq_false_iff] at this
  rcases hk with rfl | rfl
  · simp [this.1]
  · simp [this.2]

/-- what the hardening block appends when there is neither a `rel` nor a `target` attribute -/
def hardenExtra (isA nf nr tb : Bool) : List Attr :=
  let tgtE : List Attr := if isA && tb then [⟨b!"target", b!"_blank"⟩] else []
  if isA && tb then
    (if nf || nr then [⟨b!"rel", addRelToken true b!"noopener" (newRelValue nf nr)⟩] ++ tgtE
     else tgtE ++ [⟨b!"rel", b!"noopener"⟩])
  else (if nf || nr then [⟨b!"rel", newRelValue nf nr⟩] else []) ++ tgtE

theorem hardenExtra_keys (isA nf nr tb : Bool) : ∀ a ∈ hardenExtra isA nf nr tb, isRelOrTarget a = true := by
  cases isA <;> cases nf <;> cases nr <;> cases tb <;> decide

theorem addNoOpener_append_noRel (u E : List Attr) (hrel : u.any (·.key == b!"rel") = false) :
    addNoOpener (u ++ E) = u ++ addNoOpener E := by
  have hid : u.map (fun a => if a.key == b!"rel" then ⟨a.key, addRelToken true b!"noopener" a.val⟩ else a) = u := by
    rw [List.any_eq_false] at hrel
    exact (List.map_congr_left fun a ha => if_neg (hrel a ha)).trans (List.map_id' u)
  unfold addNoOpener
  rw [List.any_append, hrel, Bool.false_or]
  split
  · rw [List.map_append, hid]
  · rw [List.append_assoc]

theorem hardenCore_appends (isA nf nr tb : Bool) (u : List Attr) (h : ∀ a ∈ u, isRelOrTarget a = false) :
    hardenCore isA nf nr tb u = u ++ hardenExtra isA nf nr tb := by
  have hrel := any_key_false u b!"rel" (.inl rfl) h
  have htgt := any_key_false u b!"target" (.inr rfl) h
  have htgt2 : (u.any fun a => a.key == b!"target" && asciiEqualFold a.val b!"_blank") = false := by
    rw [List.any_eq_false]
    intro a ha
    have := h a ha
    simp only [isRelOrTarget, Bool.or_eq_false_iff] at this
    simp [this.2]
  unfold hardenCore hardenExtra
  simp only [BM.map_relFix_id nf nr u (.inr hrel), fixFirstTarget_id u htgt, hrel, htgt, htgt2, Bool.and_false, Bool.or_false,
    Bool.not_false, Bool.and_true, ite_self]
  -- what is left depends on `isA && tb` (target and noopener) and on `nf || nr` (a rel attribute) only
  generalize (isA && tb) = b1
  generalize (nf || nr) = b2
  generalize newRelValue nf nr = nv
  cases b1 <;> cases b2 <;> simp only [Bool.false_eq_true, ↓reduceIte, List.append_nil, Bool.or_true, Bool.or_self]
  · rw [addNoOpener_append_noRel u _ hrel]; rfl
  · rw [List.append_assoc, addNoOpener_append_noRel u _ hrel]; rfl

theorem hardenLinks_appends (p : Policy) (el : Bytes) (u : List Attr) (h : ∀ a ∈ u, isRelOrTarget a = false) :
    ∃ E, p.hardenLinks el u = u ++ E ∧ ∀ a ∈ E, isRelOrTarget a = true := by
  rw [hardenLinks_core]
  split
  · exact ⟨[], by simp, by simp⟩
  · exact ⟨_, hardenCore_appends _ _ _ _ u h, hardenExtra_keys _ _ _ _⟩

theorem filter_hardenStage_closed (p : Policy) (el : Bytes) (acc : Attr → Bool) (u : List Attr)
    (hu : ∀ b ∈ u, acc b = true)
    (hno : isHrefElement el = true → ∀ v, acc ⟨b!"rel", v⟩ = false ∧ acc ⟨b!"target", v⟩ = false) :
    (p.hardenStage el u).filter acc = u := by
  unfold Policy.hardenStage
  split
  · rename_i hc
    have hno := hno (by simp only [Bool.and_eq_true] at hc; exact hc.2)
    have hrt : ∀ a : Attr, isRelOrTarget a = true → acc a = false := by
      intro a ha
      simp only [isRelOrTarget, Bool.or_eq_true, beq_iff_eq] at ha
      show acc ⟨a.key, a.val⟩ = false
      rcases ha with hk | hk <;> rw [hk]
      · exact (hno a.val).1
      · exact (hno a.val).2
    obtain ⟨E, hE, hEk⟩ := hardenLinks_appends p el u fun a ha => by
      cases hk : isRelOrTarget a with
      | false => rfl
      | true => have := hu a ha; rw [hrt a hk] at this; cases this
    rw [hE, List.filter_append, List.filter_eq_self.mpr hu,
      List.filter_eq_nil_iff.mpr fun a ha => by rw [hrt a (hEk a ha)]; decide, List.append_nil]
  · exact List.filter_eq_self.mpr hu

/-- `link_sanitizeAttrs_idem` for one element, with the stability proviso on the result only (`UrlStableOn`) and
    `hblind` as in `first_accepted` -/
theorem link_idemAt (p : Policy) (el : Bytes) (hs : LinkBaseAt p el) (attrs out : List Attr) (aps : AttrRules)
    (haps : p.attrRulesFor el = some aps) (h : p.sanitizeAttrs el attrs aps = some out)
    (hblind : ∀ k, urlKeyFor el = some k →
      (∀ v v', (p.filterAttr el aps false ⟨k, v⟩).isSome = (p.filterAttr el aps false ⟨k, v'⟩).isSome) ∨
      (isHrefElement el = false ∧ ∀ b ∈ out, b.key ≠ k))
    (hstab : UrlStableOn p el out) :
    p.sanitizeAttrs el out aps = some out :=
  link_idem_of hs.toLinkCoreAt h hblind hstab fun u hu => by
    rw [filter_hardenStage_closed p el _ u hu fun hhref => hs.noRelTarget aps haps hhref]

theorem LinkSimple.base {p : Policy} (hs : LinkSimple p) (el : Bytes) : LinkBaseAt p el :=
  ⟨⟨hs.noStyle el, hs.noCross, hs.noSandbox, hs.noRewriter⟩, fun aps haps hh v => hs.noRelTarget el aps haps hh v⟩

/-- **link options re-derive what they added**, under a `LinkSimple` policy -/
theorem link_sanitizeAttrs_idem (p : Policy) (hs : LinkSimple p) (el : Bytes) (attrs out : List Attr) (aps : AttrRules)
    (haps : p.attrRulesFor el = some aps) (h : p.sanitizeAttrs el attrs aps = some out) :
    p.sanitizeAttrs el out aps = some out :=
  link_idemAt p el (hs.base el) attrs out aps haps h
    (fun k hk => .inl fun v v' => hs.blind el aps haps k v v' (urlKeyFor_mem el k hk))
    (stableOn_of_stable p hs.noRewriter hs.stable h)

theorem attrFix_of_link (p : Policy) (hs : LinkSimple p) : AttrFix p :=
  attrFix_of_idem (link_sanitizeAttrs_idem p hs)

/-- **C20, policies with link options** whose rules let neither `rel` nor `target` through on a, area, base,
    link: sanitising twice is sanitising once for every input — the `rel` tokens and the `target` the
    options add are stripped by the second pass and added again identically — provided URL normalisation
    is stable.  (When the rules let exactly one of the two through, the order of the attributes changes
    on the second pass: the known finding `forced-attr-order`.) -/
theorem C20_links (p : Policy) (hp : Plain p.ensureInit) (hs : LinkSimple p.ensureInit) (input : Bytes) :
    p.sanitizeCore (p.sanitizeCore input) = p.sanitizeCore input :=
  C20_fix p hp (attrFix_of_link _ hs) input

theorem C20_links_on (p : Policy) (input : Bytes) (hp : PlainOn p.ensureInit (tokenize input))
    (hnc : p.ensureInit.allowComments = false) (hs : LinkSimple p.ensureInit) :
    p.sanitizeCore (p.sanitizeCore input) = p.sanitizeCore input :=
  C20_fix_on p input hp hnc (attrFix_of_link _ hs)

/-- the proviso is needed, and the model shows why: under a policy that allows relative URLs, `/%2f}` is
    normalised to `//%7D`, which is refused when it comes back — so the second pass drops the link the
    first pass kept (the known finding `url-reprint-unstable`, here on the model's `net/url`) -/
example :
    let p : Policy := { initialized := true, requireParseableURLs := true, allowRelativeURLs := true,
                        allowURLSchemes := [(b!"https", [])], elsAndAttrs := [(b!"a", [(b!"href", [none])])] }
    p.validURL b!"https://a.b/c?d=e#f" = some b!"https://a.b/c?d=e#f" ∧
    p.validURL b!"/%2f}" = some b!"//%7D" ∧ p.validURL b!"//%7D" = none ∧
    p.sanitizeCore b!"<a href=\"/%2f}\">t</a>" = b!"<a href=\"//%7D\">t</a>" ∧
    p.sanitizeCore (p.sanitizeCore b!"<a href=\"/%2f}\">t</a>") = b!"t" := by decide +kernel

/-- a policy of the `LinkSimple` kind at work (a test, not the unbounded claim): the options add `rel` and
    `target`, the rules would let neither through, and the second pass reproduces the first -/
example :
    let p : Policy := { initialized := true, requireParseableURLs := true, requireNoFollow := true,
                        addTargetBlankToFullyQualifiedLinks := true, allowURLSchemes := [(b!"https", [])],
                        elsAndAttrs := [(b!"a", [(b!"href", [none])])] }
    p.sanitizeCore b!"<a href=\"https://a.b/\" rel=\"author\" target=\"x\">t</a>" =
      b!"<a href=\"https://a.b/\" rel=\"nofollow noopener\" target=\"_blank\">t</a>" ∧
    p.sanitizeCore (p.sanitizeCore b!"<a href=\"https://a.b/\" rel=\"author\" target=\"x\">t</a>") =
      p.sanitizeCore b!"<a href=\"https://a.b/\" rel=\"author\" target=\"x\">t</a>" := by decide +kernel

end BM.Props
