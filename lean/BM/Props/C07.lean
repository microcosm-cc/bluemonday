import BM.Proofs.Step
import BM.Props.C02
import BM.Proofs.Bytes
/-
  C07: conforming content passes through unchanged (rules are additive).  Token level, every policy, outside
  skipped content: a start or self-closing tag of an allowed element (not script/style) whose attribute list is a
  fixed point of `sanitizeAttrs` and which is non-bare or allowed bare is written back exactly as `Token.String`
  renders it, and so is the end tag of an allowed element; a text is written as its escaping; none of these
  changes the skip state.  With the render/tokenize round trip (canonical documents re-tokenise to their own
  tokens, `tokenize_renderAll`) this gives byte-for-byte pass-through (`C07_bytes`); pass-through is also checked
  on policy-derived conforming documents by `oracleC07`.
-/
namespace BM.Props
open BM BM.Html BM.Spec

theorem not_bare {attrs : List Attr} {b : Bool} (h : attrs ≠ [] ∨ b = true) : (attrs.isEmpty && !b) = false := by
  rcases h with h | h
  · cases attrs with
    | nil => exact absurd rfl h
    | cons _ _ => rfl
  · simp [h]

theorem start_step (p : Policy) (st : LoopState) (t : Token) (aps : AttrRules)
    (htt : t.tt = .start) (hss : isScriptOrStyle t.data = false)
    (haps : p.attrRulesFor t.data = some aps) (hfix : p.cleanAttrs t aps = some t.attrs)
    (hbare : t.attrs ≠ [] ∨ p.allowNoAttrs t.data = true) (hskip : st.skipElementContent = false) :
    p.step st t = some (markKept { st with mostRecentlyStartedToken := t.data } t.data, [⟨t.render⟩]) ∧
      (markKept { st with mostRecentlyStartedToken := t.data } t.data).skipElementContent = false := by
  obtain ⟨tt, data, attrs⟩ := t
  simp only at htt hss haps hfix hbare
  subst htt
  have hs : (markKept { st with mostRecentlyStartedToken := data } data).skipElementContent = false := by
    unfold markKept; split <;> simpa using hskip
  refine ⟨?_, hs⟩
  simp only [Policy.step, Policy.stepStart, hss, Bool.false_and, Bool.false_eq_true, ↓reduceIte,
    haps, hfix, not_bare hbare]
  simp [emitUnlessSkipping, hs]

theorem conforming_start_unchanged (p : Policy) (st : LoopState) (t : Token) (aps : AttrRules)
    (htt : t.tt = .start) (hss : isScriptOrStyle t.data = false)
    (haps : p.attrRulesFor t.data = some aps) (hfix : p.cleanAttrs t aps = some t.attrs)
    (hbare : t.attrs ≠ [] ∨ p.allowNoAttrs t.data = true) (hskip : st.skipElementContent = false) :
    ∃ st', p.step st t = some (st', [⟨t.render⟩]) ∧ st'.skipElementContent = false :=
  ⟨_, start_step p st t aps htt hss haps hfix hbare hskip⟩

theorem end_step (p : Policy) (st : LoopState) (t : Token)
    (htt : t.tt = .end_) (hss : isScriptOrStyle t.data = false)
    (hall : p.explicitEl t.data = true ∨ p.patternEl t.data = true)
    (hstack : st.skipClosingTag = false) (hskip : st.skipElementContent = false) :
    p.step st t = some (clearRecent st t.data, [⟨t.render⟩]) ∧
      (clearRecent st t.data).skipElementContent = false ∧ (clearRecent st t.data).skipClosingTag = false := by
  have hcr : (clearRecent st t.data).skipClosingTag = false ∧ (clearRecent st t.data).skipElementContent = false := by
    unfold clearRecent; split <;> simp [hstack, hskip]
  have hpm : popMarker (clearRecent st t.data) t.data = clearRecent st t.data := by
    simp [popMarker, hcr.1]
  have hls : p.leaveSkip (clearRecent st t.data) t.data = clearRecent st t.data := by
    unfold Policy.leaveSkip; rcases hall with h | h <;> simp [h]
  have hnot : (!p.explicitEl t.data && !p.patternEl t.data) = false := by
    rcases hall with h | h <;> simp [h]
  refine ⟨?_, hcr.2, hcr.1⟩
  simp [Policy.step, htt, Policy.stepEnd, hss, hcr.1, hcr.2, hpm, hls, hnot, emitUnlessSkipping]

theorem allowed_end_unchanged (p : Policy) (st : LoopState) (t : Token)
    (htt : t.tt = .end_) (hss : isScriptOrStyle t.data = false)
    (hall : p.explicitEl t.data = true ∨ p.patternEl t.data = true)
    (hstack : st.skipClosingTag = false) (hskip : st.skipElementContent = false) :
    ∃ st', p.step st t = some (st', [⟨t.render⟩]) ∧ st'.skipElementContent = false ∧ st'.skipClosingTag = false :=
  ⟨_, end_step p st t htt hss hall hstack hskip⟩

/-- registering one more rule for an attribute never removes acceptance -/
theorem more_rules_accept_more (apl : List AttrPolicy) (ap : AttrPolicy) (v : Bytes)
    (h : attrPoliciesAccept apl v = true) : attrPoliciesAccept (apl ++ [ap]) v = true := by
  rw [accept_append]; simp [h]

/-- a value accepted by the newly added rule is accepted whatever was registered before -/
theorem new_rule_accepts (apl : List AttrPolicy) (r : Pat) (v : Bytes) (h : r.test v = true) :
    attrPoliciesAccept (apl ++ [some r]) v = true := by
  rw [accept_append]; simp [attrPoliciesAccept, h]

/-- a token of a canonical conforming document: plain (well-formed name and keys, no raw-text
    element), allowed, not script/style, its attribute list a fixed point of `sanitizeAttrs`
    (every attribute and value allowed, nothing for the sanitiser to add or rewrite) and not
    bare unless the element may be bare -/
def Conform (p : Policy) (t : Token) : Prop :=
  SegOK t ∧
  match t.tt with
  | .text => True
  | .start => isScriptOrStyle t.data = false ∧ ∃ aps, p.attrRulesFor t.data = some aps ∧
      p.cleanAttrs t aps = some t.attrs ∧ (t.attrs ≠ [] ∨ p.allowNoAttrs t.data = true)
  | .selfClosing => isScriptOrStyle t.data = false ∧ ∃ aps, p.attrRulesFor t.data = some aps ∧
      p.cleanAttrs t aps = some t.attrs ∧ (t.attrs ≠ [] ∨ p.allowNoAttrs t.data = true)
  | .end_ => isScriptOrStyle t.data = false ∧ (p.explicitEl t.data = true ∨ p.patternEl t.data = true)
  | .comment => False
  | .doctype => False

/-- the two kinds of opening tag are conforming by the same clause -/
theorem conform_open {p : Policy} {t : Token} (htt : t.tt = .start ∨ t.tt = .selfClosing) (hseg : SegOK t)
    (hss : isScriptOrStyle t.data = false) {aps : AttrRules} (haps : p.attrRulesFor t.data = some aps)
    (hfix : p.cleanAttrs t aps = some t.attrs) (hbare : t.attrs ≠ [] ∨ p.allowNoAttrs t.data = true) :
    Conform p t := by
  refine ⟨hseg, ?_⟩
  rcases htt with h | h <;> simp only [h] <;> exact ⟨hss, aps, haps, hfix, hbare⟩

/-- nothing is being skipped or dropped, and we are not inside a script/style body -/
def Clear (st : LoopState) : Prop :=
  st.skipElementContent = false ∧ st.skipClosingTag = false ∧ isScriptOrStyle st.mostRecentlyStartedToken = false

theorem conform_step (p : Policy) (st : LoopState) (t : Token) (hc : Conform p t) (hj : Clear st) :
    ∃ st', p.step st t = some (st', [⟨t.render⟩]) ∧ Clear st' := by
  obtain ⟨_, hc⟩ := hc
  obtain ⟨hskip, hsct, hrec⟩ := hj
  cases htt : t.tt with
  | comment => rw [htt] at hc; exact hc.elim
  | doctype => rw [htt] at hc; exact hc.elim
  | text =>
    exact ⟨st, by simp [Policy.step, htt, Policy.stepText, hskip, hrec], hskip, hsct, hrec⟩
  | start =>
    rw [htt] at hc
    obtain ⟨hss, aps, haps, hfix, hbare⟩ := hc
    -- nothing is being dropped, so `markKept` leaves the state as it is
    have hmk : markKept { st with mostRecentlyStartedToken := t.data } t.data =
        { st with mostRecentlyStartedToken := t.data } := by simp [markKept, hsct]
    refine ⟨_, (start_step p st t aps htt hss haps hfix hbare hskip).1, ?_⟩
    rw [hmk]
    exact ⟨hskip, hsct, hss⟩
  | selfClosing =>
    rw [htt] at hc
    obtain ⟨hss, aps, haps, hfix, hbare⟩ := hc
    refine ⟨{ st with mostRecentlyStartedToken := t.data }, ?_, hskip, hsct, hss⟩
    obtain ⟨tt, data, attrs⟩ := t
    simp only at htt hss haps hfix hbare
    subst htt
    simp [Policy.step, Policy.stepSelfClosing, hss, haps, hfix, not_bare hbare, emitUnlessSkipping, hskip]
  | end_ =>
    rw [htt] at hc
    obtain ⟨hss, hall⟩ := hc
    obtain ⟨hstep, h1, h2⟩ := end_step p st t htt hss hall hsct hskip
    refine ⟨_, hstep, h1, h2, ?_⟩
    unfold clearRecent
    split
    · rfl
    · exact hrec

theorem conform_run (p : Policy) (ts : List Token) (hc : ∀ t ∈ ts, Conform p t) :
    ∀ st, Clear st → (p.run st ts).1.map (·.data) = ts.map Token.render := by
  induction ts with
  | nil => intro st _; simp [Policy.run]
  | cons t ts ih =>
    intro st hj
    obtain ⟨st', hs, hj'⟩ := conform_step p st t (hc t (by simp)) hj
    unfold Policy.run
    simp only [hs]
    simp [ih (fun x hx => hc x (by simp [hx])) st' hj']

theorem render_flushText (d : Bytes) : renderAll (flushText d) = escape d := by
  unfold flushText
  split
  · rename_i h; simp [List.isEmpty_iff.mp h, renderAll, escape]
  · simp [renderAll, Token.render]

theorem renderAll_coalesce : ∀ (ts : List Token) (d : Bytes), renderAll (coalesce d ts) = escape d ++ renderAll ts
  | [], d => by simp [coalesce, render_flushText, renderAll]
  | t :: ts, d => by
    simp only [coalesce]
    split
    · rename_i h
      have ht : t.tt = .text := by revert h; cases t.tt <;> intro h <;> first | rfl | exact absurd h (by decide)
      rw [renderAll_coalesce ts, escape_append]
      simp [renderAll, Token.render, ht, List.append_assoc]
    · rw [renderAll_append, render_flushText]
      simp [renderAll, renderAll_coalesce ts, escape]

theorem conform_coalesce (p : Policy) : ∀ (ts : List Token) (d : Bytes), (∀ t ∈ ts, Conform p t) →
    ∀ k ∈ coalesce d ts, Conform p k := by
  intro ts d hc k hk
  rcases mem_coalesce ts d k hk with ⟨h1, h2⟩ | ⟨h1, _⟩
  · obtain ⟨tt, data, attrs⟩ := k
    simp only at h1 h2; subst h1; subst h2
    exact ⟨by simp [SegOK], trivial⟩
  · exact hc k h1

/-- **C07 (byte level)**: the canonical serialisation of a conforming token list — texts, and
    tags of allowed elements whose attribute lists the sanitiser has nothing to remove, add
    or rewrite — is returned byte for byte, by every policy. -/
theorem C07_bytes (p : Policy) (toks : List Token) (hc : ∀ t ∈ toks, Conform p.ensureInit t) :
    p.sanitizeCore (renderAll toks) = renderAll toks := by
  have hseg : ∀ t ∈ toks, SegOK t := fun t ht => (hc t ht).1
  unfold Policy.sanitizeCore Policy.sanitizeTokens
  rw [tokenize_renderAll toks hseg,
    conform_run p.ensureInit (coalesce [] toks) (conform_coalesce p.ensureInit toks [] hc) {} ⟨rfl, rfl, rfl⟩,
    flatten_map_render, renderAll_coalesce]
  simp [escape]

/-- non-vacuity: a conforming token list for a concrete policy -/
example :
    let p : Policy := { initialized := true, elsAndAttrs := [(b!"b", []), (b!"a", [(b!"href", [none])])],
                        setOfElementsAllowedWithoutAttrs := [b!"b"] }
    ∀ t ∈ [(⟨.start, b!"a", [⟨b!"href", b!"x"⟩]⟩ : Token), ⟨.text, b!"1<2", []⟩, ⟨.start, b!"b", []⟩,
           ⟨.end_, b!"b", []⟩, ⟨.end_, b!"a", []⟩], Conform p.ensureInit t := by
  intro p t ht
  simp only [List.mem_cons, List.not_mem_nil, or_false] at ht
  rcases ht with rfl | rfl | rfl | rfl | rfl
  · refine ⟨⟨⟨97, [], rfl, by decide, by simp⟩, by decide, ?_⟩, by decide, [(b!"href", [none])], rfl, rfl, .inl (by simp)⟩
    intro a ha; simp at ha; subst ha
    exact ⟨104, b!"ref", rfl, by decide, by decide⟩
  · exact ⟨trivial, trivial⟩
  · exact ⟨⟨⟨98, [], rfl, by decide, by simp⟩, by decide, by simp⟩, by decide, [], rfl, rfl, .inr (by decide)⟩
  · exact ⟨⟨⟨98, [], rfl, by decide, by simp⟩, rfl⟩, by decide, .inl (by decide)⟩
  · exact ⟨⟨⟨97, [], rfl, by decide, by simp⟩, rfl⟩, by decide, .inl (by decide)⟩

example :
    let digits : Pat := ⟨1, fun v => v.all isDigit && !v.isEmpty⟩
    let lower : Pat := ⟨2, fun v => v.all isLowerA && !v.isEmpty⟩
    let p : Policy := { initialized := true, elsAndAttrs := [(b!"b", [(b!"id", [some digits, some lower])]), (b!"i", [])],
                        setOfElementsAllowedWithoutAttrs := [b!"i"] }
    p.sanitizeCore b!"<b id=\"abc\">x &amp; y<i>z</i></b><b id=\"42\"></b>" =
      b!"<b id=\"abc\">x &amp; y<i>z</i></b><b id=\"42\"></b>" := by decide +kernel

end BM.Props
