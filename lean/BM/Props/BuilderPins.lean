import BM.Gen.BuilderFacts
import BM.Policy
/-
  Source correspondence for the builder API (C17, C13): the state of a policy and who writes it, extracted by syntax
  from policy.go / helpers.go / policies.go on every run (BM/Gen/BuilderFacts.lean), is equal to the table below — the one
  `BM/Policy.lean` (`applyOpInit`), `Proofs/Switches` (`setSwitches`, `setsSkip`, `setsScheme`) and `Proofs/Tables`
  (`adds…`) model.  The Policy struct has exactly these 26 fields, one per field of the model's
  `Policy` (a further field would be state the model does not know: a cache, a flag, a shared table); each method
  writes the fields and calls the methods listed for it; the helpers and the shipped constructors write no field
  themselves: they are compositions of the methods above (their histories are regenerated separately,
  BM/Gen/Shipped.lean).
-/
namespace BM.Props

/-- the fields of the Policy struct, as the model's `Policy` has them -/
def expectedPolicyFields : List (String × String) := [
  ("initialized", "bool"),
  ("addSpaces", "bool"),
  ("requireNoFollow", "bool"),
  ("requireNoFollowFullyQualifiedLinks", "bool"),
  ("requireNoReferrer", "bool"),
  ("requireNoReferrerFullyQualifiedLinks", "bool"),
  ("requireCrossOriginAnonymous", "bool"),
  ("requireSandboxOnIFrame", "map[string]bool"),
  ("addTargetBlankToFullyQualifiedLinks", "bool"),
  ("requireParseableURLs", "bool"),
  ("allowRelativeURLs", "bool"),
  ("allowDataAttributes", "bool"),
  ("allowComments", "bool"),
  ("elsAndAttrs", "map[string]map[string][]attrPolicy"),
  ("elsMatchingAndAttrs", "map[*regexp.Regexp]map[string][]attrPolicy"),
  ("globalAttrs", "map[string][]attrPolicy"),
  ("elsAndStyles", "map[string]map[string][]stylePolicy"),
  ("elsMatchingAndStyles", "map[*regexp.Regexp]map[string][]stylePolicy"),
  ("globalStyles", "map[string][]stylePolicy"),
  ("allowURLSchemes", "map[string][]urlPolicy"),
  ("allowURLSchemeRegexps", "[]*regexp.Regexp"),
  ("srcRewriter", "urlRewriter"),
  ("setOfElementsAllowedWithoutAttrs", "map[string]struct{}"),
  ("setOfElementsMatchingAllowedWithoutAttrs", "[]*regexp.Regexp"),
  ("setOfElementsToSkipContent", "map[string]struct{}"),
  ("allowUnsafe", "bool")
]


/-- (file, receiver, method, fields written, policy methods called), as the model's `applyOpInit` has them -/
def expectedBuilderWrites : List (String × String × String × List String × List String) := [
  ("policy.go", "*Policy", "init", ["allowURLSchemeRegexps", "allowURLSchemes", "elsAndAttrs", "elsAndStyles", "elsMatchingAndAttrs", "elsMatchingAndStyles", "globalAttrs", "globalStyles", "initialized", "setOfElementsAllowedWithoutAttrs", "setOfElementsToSkipContent"], []),
  ("policy.go", "", "NewPolicy", [], ["addDefaultElementsWithoutAttrs", "addDefaultSkipElementContent"]),
  ("policy.go", "*Policy", "AllowAttrs", [], ["init"]),
  ("policy.go", "*Policy", "AllowDataAttributes", ["allowDataAttributes"], []),
  ("policy.go", "*Policy", "AllowComments", ["allowComments"], []),
  ("policy.go", "*Policy", "AllowNoAttrs", [], ["init"]),
  ("policy.go", "*attrPolicyBuilder", "AllowNoAttrs", [], []),
  ("policy.go", "*attrPolicyBuilder", "Matching", [], []),
  ("policy.go", "*attrPolicyBuilder", "OnElements", ["elsAndAttrs", "setOfElementsAllowedWithoutAttrs"], []),
  ("policy.go", "*attrPolicyBuilder", "OnElementsMatching", ["elsMatchingAndAttrs", "setOfElementsMatchingAllowedWithoutAttrs"], []),
  ("policy.go", "*attrPolicyBuilder", "Globally", ["globalAttrs"], []),
  ("policy.go", "*Policy", "AllowStyles", [], ["init"]),
  ("policy.go", "*stylePolicyBuilder", "Matching", [], []),
  ("policy.go", "*stylePolicyBuilder", "MatchingEnum", [], []),
  ("policy.go", "*stylePolicyBuilder", "MatchingHandler", [], []),
  ("policy.go", "*stylePolicyBuilder", "OnElements", ["elsAndStyles"], []),
  ("policy.go", "*stylePolicyBuilder", "OnElementsMatching", ["elsMatchingAndStyles"], []),
  ("policy.go", "*stylePolicyBuilder", "Globally", ["globalStyles"], []),
  ("policy.go", "*Policy", "AllowElements", ["elsAndAttrs"], ["init"]),
  ("policy.go", "*Policy", "AllowElementsMatching", ["elsMatchingAndAttrs"], ["init"]),
  ("policy.go", "*Policy", "AllowURLSchemesMatching", ["allowURLSchemeRegexps"], []),
  ("policy.go", "*Policy", "RewriteSrc", ["srcRewriter"], []),
  ("policy.go", "*Policy", "RequireNoFollowOnLinks", ["requireNoFollow", "requireParseableURLs"], []),
  ("policy.go", "*Policy", "RequireNoFollowOnFullyQualifiedLinks", ["requireNoFollowFullyQualifiedLinks", "requireParseableURLs"], []),
  ("policy.go", "*Policy", "RequireNoReferrerOnLinks", ["requireNoReferrer", "requireParseableURLs"], []),
  ("policy.go", "*Policy", "RequireNoReferrerOnFullyQualifiedLinks", ["requireNoReferrerFullyQualifiedLinks", "requireParseableURLs"], []),
  ("policy.go", "*Policy", "RequireCrossOriginAnonymous", ["requireCrossOriginAnonymous"], []),
  ("policy.go", "*Policy", "AddTargetBlankToFullyQualifiedLinks", ["addTargetBlankToFullyQualifiedLinks", "requireParseableURLs"], []),
  ("policy.go", "*Policy", "RequireParseableURLs", ["requireParseableURLs"], []),
  ("policy.go", "*Policy", "AllowRelativeURLs", ["allowRelativeURLs"], ["RequireParseableURLs"]),
  ("policy.go", "*Policy", "AllowURLSchemes", ["allowURLSchemes"], ["RequireParseableURLs", "init"]),
  ("policy.go", "*Policy", "AllowURLSchemeWithCustomPolicy", ["allowURLSchemes"], ["RequireParseableURLs", "init"]),
  ("policy.go", "*Policy", "RequireSandboxOnIFrame", ["requireSandboxOnIFrame"], []),
  ("policy.go", "*Policy", "AddSpaceWhenStrippingTag", ["addSpaces"], []),
  ("policy.go", "*Policy", "SkipElementsContent", ["setOfElementsToSkipContent"], ["init"]),
  ("policy.go", "*Policy", "AllowElementsContent", ["setOfElementsToSkipContent"], ["init"]),
  ("policy.go", "*Policy", "AllowUnsafe", ["allowUnsafe"], ["init"]),
  ("policy.go", "*Policy", "addDefaultElementsWithoutAttrs", ["setOfElementsAllowedWithoutAttrs"], ["init"]),
  ("policy.go", "*Policy", "addDefaultSkipElementContent", ["setOfElementsToSkipContent"], ["init"]),
  ("helpers.go", "*Policy", "AllowStandardURLs", [], ["AllowRelativeURLs", "AllowURLSchemes", "RequireNoFollowOnLinks", "RequireParseableURLs"]),
  ("helpers.go", "*Policy", "AllowStandardAttributes", [], ["AllowAttrs", "Globally", "Matching"]),
  ("helpers.go", "*Policy", "AllowStyling", [], ["AllowAttrs", "Globally", "Matching"]),
  ("helpers.go", "*Policy", "AllowImages", [], ["AllowAttrs", "AllowStandardURLs", "Matching", "OnElements"]),
  ("helpers.go", "*Policy", "AllowDataURIImages", [], ["AllowURLSchemeWithCustomPolicy", "RequireParseableURLs"]),
  ("helpers.go", "*Policy", "AllowLists", [], ["AllowAttrs", "AllowElements", "Matching", "OnElements"]),
  ("helpers.go", "*Policy", "AllowTables", [], ["AllowAttrs", "AllowElements", "Matching", "OnElements"]),
  ("helpers.go", "*Policy", "AllowIFrames", [], ["AllowAttrs", "OnElements", "RequireSandboxOnIFrame"]),
  ("policies.go", "", "StrictPolicy", [], ["NewPolicy"]),
  ("policies.go", "", "StripTagsPolicy", [], ["StrictPolicy"]),
  ("policies.go", "", "UGCPolicy", [], ["AllowAttrs", "AllowElements", "AllowImages", "AllowLists", "AllowStandardAttributes", "AllowStandardURLs", "AllowTables", "Matching", "NewPolicy", "OnElements"])
]


/-- **the builder API writes what the model says it writes** (regenerated from source every run) -/
theorem builder_facts_pin :
    Gen.policyFields = expectedPolicyFields ∧ Gen.builderWrites = expectedBuilderWrites := ⟨rfl, rfl⟩

/-- the methods that start with `p.init()` in the source, and the model's `callsInit` on the calls that stand for
    them and on eight of the fourteen calls that do not (the two builders are started by AllowAttrs / AllowNoAttrs /
    AllowStyles) -/
theorem callsInit_table :
    (expectedBuilderWrites.filter fun e => e.1 == "policy.go" && e.2.1 == "*Policy" && e.2.2.2.2.contains "init"
        && e.2.2.1 != "addDefaultElementsWithoutAttrs" && e.2.2.1 != "addDefaultSkipElementContent").map (·.2.2.1) =
      ["AllowAttrs", "AllowNoAttrs", "AllowStyles", "AllowElements", "AllowElementsMatching", "AllowURLSchemes",
       "AllowURLSchemeWithCustomPolicy", "SkipElementsContent", "AllowElementsContent", "AllowUnsafe"] ∧
    (BuilderOp.callsInit (.allowAttrs [] none false .globally) && BuilderOp.callsInit (.allowStyles [] {} .globally) &&
     BuilderOp.callsInit (.allowElements []) && BuilderOp.callsInit (.allowElementsMatching ⟨0, fun _ => false⟩) &&
     BuilderOp.callsInit (.allowURLSchemes []) && BuilderOp.callsInit (.allowURLSchemeWithCustomPolicy [] fun _ => false) &&
     BuilderOp.callsInit (.skipElementsContent []) && BuilderOp.callsInit (.allowElementsContent []) &&
     BuilderOp.callsInit (.allowUnsafe false) &&
     !BuilderOp.callsInit .allowDataAttributes && !BuilderOp.callsInit .allowComments &&
     !BuilderOp.callsInit (.allowURLSchemesMatching ⟨0, fun _ => false⟩) && !BuilderOp.callsInit (.requireParseableURLs true) &&
     !BuilderOp.callsInit (.requireNoFollowOnLinks true) && !BuilderOp.callsInit (.addSpaceWhenStrippingTag true) &&
     !BuilderOp.callsInit (.requireSandboxOnIFrame []) && !BuilderOp.callsInit (.allowRelativeURLs true)) = true :=
  ⟨rfl, rfl⟩

end BM.Props
