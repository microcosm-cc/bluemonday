import BM.Policy
import BM.Sanitize
import BM.Spec.Oracles
import BM.Proofs.Tables
import BM.Proofs.Switches
import BM.Proofs.WFBuild
import BM.Proofs.RtTag
import BM.Props.BuilderPins
/-
  C17: a policy is its rule set, on the builder model `applyOp` / `applyOps`.  The rule tables are sets of
  contributions (`C17_rule_tables`, `C17_rule_tables2`, from Proofs/Tables): after any history
  of builder calls on an initialised policy each table holds what it held plus what each call contributes — hence
  order independence, accumulation, and independence of the spelling of names beyond `strings.ToLower`.  The
  switch-like options are a state machine of their own (`C17_switches_refinement`, from Proofs/Switches): no table
  feeds back into them; `C17_last_setting_wins`, `C17_skip_last_wins` and `C17_scheme_refinement` say which call
  decides each.  That policies are values (`applyOp` returns a new policy and cannot affect another one) is
  trivial in the model and tied to the code by the interleaved-construction histories of the correspondence run.
-/
namespace BM.Props
open BM

variable (d : Bytes → Bytes → Bool)

theorem last_wins_addSpaces (p : Policy) (a b : Bool) :
    applyOp d (applyOp d p (.addSpaceWhenStrippingTag a)) (.addSpaceWhenStrippingTag b) =
    applyOp d p (.addSpaceWhenStrippingTag b) := by
  unfold applyOp; rfl

theorem last_wins_noFollow (p : Policy) (a b : Bool) :
    applyOp d (applyOp d p (.requireNoFollowOnLinks a)) (.requireNoFollowOnLinks b) =
    applyOp d p (.requireNoFollowOnLinks b) := by
  unfold applyOp; rfl

theorem last_wins_noReferrer (p : Policy) (a b : Bool) :
    applyOp d (applyOp d p (.requireNoReferrerOnLinks a)) (.requireNoReferrerOnLinks b) =
    applyOp d p (.requireNoReferrerOnLinks b) := by
  unfold applyOp; rfl

theorem last_wins_targetBlank (p : Policy) (a b : Bool) :
    applyOp d (applyOp d p (.addTargetBlankToFullyQualifiedLinks a)) (.addTargetBlankToFullyQualifiedLinks b) =
    applyOp d p (.addTargetBlankToFullyQualifiedLinks b) := by
  unfold applyOp; rfl

theorem last_wins_crossOrigin (p : Policy) (a b : Bool) :
    applyOp d (applyOp d p (.requireCrossOriginAnonymous a)) (.requireCrossOriginAnonymous b) =
    applyOp d p (.requireCrossOriginAnonymous b) := by
  unfold applyOp; rfl

theorem last_wins_parseable (p : Policy) (a b : Bool) :
    applyOp d (applyOp d p (.requireParseableURLs a)) (.requireParseableURLs b) =
    applyOp d p (.requireParseableURLs b) := by
  unfold applyOp; rfl

theorem last_wins_relative (p : Policy) (a b : Bool) :
    applyOp d (applyOp d p (.allowRelativeURLs a)) (.allowRelativeURLs b) =
    applyOp d p (.allowRelativeURLs b) := by
  unfold applyOp; rfl

theorem ensureInit_idem (p : Policy) : p.ensureInit.ensureInit = p.ensureInit :=
  ensureInit_of_init _ (ensureInit_initialized p)

theorem last_wins_unsafe (p : Policy) (a b : Bool) :
    applyOp d (applyOp d p (.allowUnsafe a)) (.allowUnsafe b) = applyOp d p (.allowUnsafe b) := by
  simp only [applyOp, BuilderOp.callsInit, ↓reduceIte, applyOpInit]
  cases hi : p.initialized <;> simp [Policy.ensureInit, hi]

theorem last_wins_sandbox (p : Policy) (a b : List Bytes) :
    applyOp d (applyOp d p (.requireSandboxOnIFrame a)) (.requireSandboxOnIFrame b) =
    applyOp d p (.requireSandboxOnIFrame b) := by
  unfold applyOp; rfl

/-- the documented side effect: these link options and `AllowRelativeURLs` switch URL parsing on, whatever their
    value (every call that does so: `C17_last_setting_wins`) -/
theorem link_option_enables_url_parsing (p : Policy) (b : Bool) :
    (applyOp d p (.requireNoFollowOnLinks b)).requireParseableURLs = true ∧
    (applyOp d p (.requireNoReferrerOnLinks b)).requireParseableURLs = true ∧
    (applyOp d p (.addTargetBlankToFullyQualifiedLinks b)).requireParseableURLs = true ∧
    (applyOp d p (.allowRelativeURLs b)).requireParseableURLs = true := ⟨rfl, rfl, rfl, rfl⟩

theorem switches_commute (p : Policy) (a b : Bool) :
    applyOp d (applyOp d p (.addSpaceWhenStrippingTag a)) (.requireCrossOriginAnonymous b) =
    applyOp d (applyOp d p (.requireCrossOriginAnonymous b)) (.addSpaceWhenStrippingTag a) := by
  unfold applyOp; rfl

theorem allowElements_monotone (p : Policy) (hi : p.initialized = true) (names : List Bytes) (el : Bytes)
    (h : Spec.allowsElement p el = true) :
    Spec.allowsElement (applyOp d p (.allowElements names)) el = true := by
  rw [applyOp_init_eq d p hi]
  unfold Spec.allowsElement at h ⊢
  -- the call leaves the pattern table alone and only adds to the element table
  rw [(applyOpInit_frame d p _).elsMatchingAndAttrs rfl]
  exact Bool.or_eq_true_iff.mpr <| (Bool.or_eq_true_iff.mp h).imp_left fun he =>
    (tables_adds d (.elem el) p (.allowElements names)).mpr (.inl he)

/-- `strings.ToLower` cannot tell an ASCII name from its lower-cased spelling: a respelling `f`
    that satisfies the hypothesis of `C17_case_independent` on ASCII names -/
theorem toLower_lowerAscii (n : Bytes) (h : n.all (· < 0x80) = true) : toLowerName (lowerAscii n) = toLowerName n := by
  have h1 : toLowerGo n = lowerAscii n := by simp [toLowerGo, h]
  have h2 : toLowerGo (lowerAscii n) = lowerAscii n := by
    simp only [toLowerGo, lowerAscii_ascii n h, ↓reduceIte]
    exact Html.lowerAscii_idem n
  simp only [toLowerName, h1, h2]

/-- element names are case-insensitive: for ASCII names, registering the lower-cased spelling is
    registering the name (non-ASCII names are lower-cased by Go's Unicode tables, regenerated into
    `toLowerGo`; their idempotence is not proved) -/
theorem allowElements_case (p : Policy) (names : List Bytes) (hascii : ∀ n ∈ names, n.all (· < 0x80) = true) :
    applyOp d p (.allowElements (names.map lowerAscii)) = applyOp d p (.allowElements names) := by
  simp only [applyOp, BuilderOp.callsInit, ↓reduceIte, applyOpInit, toLowerName]
  generalize p.ensureInit = p
  induction names generalizing p with
  | nil => rfl
  | cons n ns ih =>
    simp only [List.map_cons, List.foldl_cons]
    rw [← toLowerName, ← toLowerName, toLower_lowerAscii n (hascii n List.mem_cons_self)]
    exact ih (fun x hx => hascii x (List.mem_cons_of_mem _ hx)) _

example :
    let d : Bytes → Bytes → Bool := fun _ _ => false
    let p := applyOp d (applyOp d {} (.allowElements [b!"B"])) (.allowElements [b!"i"])
    Spec.allowsElement p b!"b" = true ∧ Spec.allowsElement p b!"i" = true ∧ Spec.allowsElement p b!"u" = false := by
  decide

/-- five of the tables a history of rule-adding calls fills (the others: `SameTables2`), read as sets -/
structure SameTables (p q : Policy) : Prop where
  elemRules : ∀ el attr x, x ∈ p.elemRules el attr ↔ x ∈ q.elemRules el attr
  globalRules : ∀ attr x, x ∈ p.globalRules attr ↔ x ∈ q.globalRules attr
  hasElem : ∀ el, p.hasElem el ↔ q.hasElem el
  elemStyleRules : ∀ el prop x, x ∈ p.elemStyleRules el prop ↔ x ∈ q.elemStyleRules el prop
  globalStyleRules : ∀ prop x, x ∈ p.globalStyleRules prop ↔ x ∈ q.globalStyleRules prop

/-- the other six, read as sets: rules and style rules bound to element patterns (keyed by the identity of the
    compiled regexp), the pattern table, the two "allowed without attributes" sets, the scheme patterns -/
structure SameTables2 (p q : Policy) : Prop where
  matchRules : ∀ r attr x, x ∈ p.matchRules r attr ↔ x ∈ q.matchRules r attr
  hasPattern : ∀ r, p.hasPattern r ↔ q.hasPattern r
  matchStyleRules : ∀ r prop x, x ∈ p.matchStyleRules r prop ↔ x ∈ q.matchStyleRules r prop
  bareOK : ∀ el, p.bareOK el ↔ q.bareOK el
  bareOKPattern : ∀ id, p.bareOKPattern id ↔ q.bareOKPattern id
  schemePattern : ∀ id, p.schemePattern id ↔ q.schemePattern id

/-- policies whose tables hold the same facts have the same tables, in both groups -/
theorem sameTables_of_holds {p q : Policy} (h : ∀ t, p.holds t ↔ q.holds t) : SameTables p q ∧ SameTables2 p q :=
  ⟨⟨fun el attr x => h (.elemRule el attr x), fun attr x => h (.globalRule attr x), fun el => h (.elem el),
    fun el prop x => h (.elemStyle el prop x), fun prop x => h (.globalStyle prop x)⟩,
   ⟨fun r attr x => h (.matchRule r attr x), fun r => h (.pattern r), fun r prop x => h (.matchStyle r prop x),
    fun el => h (.bareOK el), fun id => h (.bareOKPattern id), fun id => h (.schemePattern id)⟩⟩

/-- **C17, tables = start ∪ contributions**, for every history on an initialised policy -/
theorem C17_rule_tables (p : Policy) (hi : p.initialized = true) (ops : List BuilderOp) :
    (∀ el attr x, x ∈ (applyOps d p ops).elemRules el attr ↔
        x ∈ p.elemRules el attr ∨ ∃ op ∈ ops, op.addsElemRule el attr x) ∧
    (∀ attr x, x ∈ (applyOps d p ops).globalRules attr ↔
        x ∈ p.globalRules attr ∨ ∃ op ∈ ops, op.addsGlobalRule attr x) ∧
    (∀ el, (applyOps d p ops).hasElem el ↔ p.hasElem el ∨ ∃ op ∈ ops, op.addsElem el) ∧
    (∀ el prop x, x ∈ (applyOps d p ops).elemStyleRules el prop ↔
        x ∈ p.elemStyleRules el prop ∨ ∃ op ∈ ops, op.addsElemStyle d el prop x) ∧
    (∀ prop x, x ∈ (applyOps d p ops).globalStyleRules prop ↔
        x ∈ p.globalStyleRules prop ∨ ∃ op ∈ ops, op.addsGlobalStyle d prop x) :=
  rules_applyOps d p hi ops

theorem sameTables_of_same_calls (p : Policy) (hi : p.initialized = true) (ops₁ ops₂ : List BuilderOp)
    (h : ∀ op, op ∈ ops₁ ↔ op ∈ ops₂) : SameTables (applyOps d p ops₁) (applyOps d p ops₂) :=
  (sameTables_of_holds fun t => (tables_adds d t).same_of_mem p hi _ _ h).1

/-- **C17, order independence of the rule tables**: any permutation of a history of builder calls
    on an initialised policy fills the tables with the same rules -/
theorem C17_order_independent (p : Policy) (hi : p.initialized = true) (ops₁ ops₂ : List BuilderOp)
    (h : ops₁.Perm ops₂) : SameTables (applyOps d p ops₁) (applyOps d p ops₂) :=
  sameTables_of_same_calls d p hi ops₁ ops₂ (fun _ => h.mem_iff)

/-- repeating calls changes nothing in the tables read as sets (idempotence) -/
theorem C17_repetition (p : Policy) (hi : p.initialized = true) (ops : List BuilderOp) :
    SameTables (applyOps d p (ops ++ ops)) (applyOps d p ops) :=
  sameTables_of_same_calls d p hi _ _ (fun op => by simp)

/-- **C17, accumulation**: further calls never remove a rule or an element from the tables -/
theorem C17_accumulate (p : Policy) (hi : p.initialized = true) (ops more : List BuilderOp) :
    (∀ el attr x, x ∈ (applyOps d p ops).elemRules el attr → x ∈ (applyOps d p (ops ++ more)).elemRules el attr) ∧
    (∀ attr x, x ∈ (applyOps d p ops).globalRules attr → x ∈ (applyOps d p (ops ++ more)).globalRules attr) ∧
    (∀ el, (applyOps d p ops).hasElem el → (applyOps d p (ops ++ more)).hasElem el) ∧
    (∀ el prop x, x ∈ (applyOps d p ops).elemStyleRules el prop →
      x ∈ (applyOps d p (ops ++ more)).elemStyleRules el prop) ∧
    (∀ prop x, x ∈ (applyOps d p ops).globalStyleRules prop →
      x ∈ (applyOps d p (ops ++ more)).globalStyleRules prop) :=
  ⟨fun el attr x => (tables_adds d (.elemRule el attr x)).mono p hi ops more,
    fun attr x => (tables_adds d (.globalRule attr x)).mono p hi ops more,
    fun el => (tables_adds d (.elem el)).mono p hi ops more,
    fun el prop x => (tables_adds d (.elemStyle el prop x)).mono p hi ops more,
    fun prop x => (tables_adds d (.globalStyle prop x)).mono p hi ops more⟩

/-- a builder call with every element / attribute / property name respelled by `f` -/
def respell (f : Bytes → Bytes) : BuilderOp → BuilderOp
  | .allowElements names => .allowElements (names.map f)
  | .allowAttrs names re ae (.onElements els) => .allowAttrs (names.map f) re ae (.onElements (els.map f))
  | .allowAttrs names re ae scope => .allowAttrs (names.map f) re ae scope
  | .allowStyles names m (.onElements els) => .allowStyles (names.map f) m (.onElements (els.map f))
  | .allowStyles names m scope => .allowStyles (names.map f) m scope
  | op => op

theorem map_lower_respell (f : Bytes → Bytes) (hf : ∀ n, toLowerName (f n) = toLowerName n) (l : List Bytes) :
    (l.map f).map toLowerName = l.map toLowerName := by
  simp only [List.map_map]
  apply List.map_congr_left
  intro a _
  exact hf a

/-- two calls contribute the same to every table -/
def SameAdds (o o' : BuilderOp) : Prop := ∀ t, o.adds d t ↔ o'.adds d t

/-- replacing every call of a history by one that contributes the same leaves the tables as they are -/
theorem sameTables_map (g : BuilderOp → BuilderOp) (hg : ∀ op, SameAdds d (g op) op) (p : Policy)
    (hi : p.initialized = true) (ops : List BuilderOp) :
    SameTables (applyOps d p (ops.map g)) (applyOps d p ops) ∧ SameTables2 (applyOps d p (ops.map g)) (applyOps d p ops) :=
  sameTables_of_holds fun t => (tables_adds d t).same_of_map g (fun op => hg op t) p hi ops

theorem respell_sameAdds (f : Bytes → Bytes) (hf : ∀ n, toLowerName (f n) = toLowerName n) (op : BuilderOp) :
    SameAdds d (respell f op) op := by
  have hm := map_lower_respell f hf
  intro t
  cases op
  case' allowAttrs names re ae scope => cases scope
  case' allowStyles names m scope => cases scope
  -- most facts are the same proposition on both sides; in the others only the lower-cased names are looked at
  case allowElements | allowAttrs.onElements | allowAttrs.onElementsMatching | allowAttrs.globally
      | allowStyles.onElements | allowStyles.onElementsMatching | allowStyles.globally =>
    cases t <;> first | exact Iff.rfl | simp only [respell, BuilderOp.adds, BuilderOp.addsElemRule, BuilderOp.addsGlobalRule,
      BuilderOp.addsElem, BuilderOp.addsElemStyle, BuilderOp.addsGlobalStyle, BuilderOp.addsMatchRule, BuilderOp.addsPattern,
      BuilderOp.addsMatchStyle, BuilderOp.addsBareOK,
      hm, ne_eq, List.map_eq_nil_iff]
  -- a call without names is left as it is
  all_goals exact Iff.rfl

/-- **C17, case independence of the rule tables**: respelling the names of a history by any `f`
    that `strings.ToLower` cannot tell from the identity (any mixture of upper and lower case)
    fills the tables with the same rules -/
theorem C17_case_independent (f : Bytes → Bytes) (hf : ∀ n, toLowerName (f n) = toLowerName n)
    (p : Policy) (hi : p.initialized = true) (ops : List BuilderOp) :
    SameTables (applyOps d p (ops.map (respell f))) (applyOps d p ops) :=
  (sameTables_map d _ (respell_sameAdds d f hf) p hi ops).1

/-- what the first pass of `sanitizeAttrs` asks of an element's rules, as a statement about the set -/
theorem accept_iff_mem (aps : AttrRules) (k v : Bytes) :
    (match aps.get? k with | some apl => attrPoliciesAccept apl v | none => false) = true ↔
      ∃ ap ∈ rulesOf aps k, (match ap with | none => true | some r => r.test v) = true :=
  acceptBy_iff aps k v

/-- **C17, the filter decision is a function of the contributions**: on an explicitly named
    element of a policy built by any history from a policy without rules (`NewPolicy()` with its default sets
    included), the first pass accepts attribute `k = v` on element rules iff some
    `AllowAttrs(… k …)[.Matching(re)].OnElements(… el …)` call of the history — in any position, in any
    spelling — has no pattern or a pattern matching `v` -/
theorem C17_accept_iff_contribution_from {p0 : Policy} (h0 : p0.NoRules) (ops : List BuilderOp) (el k v : Bytes) :
    (match Map.get? (rulesOf (applyOps d p0 ops).elsAndAttrs el) k with
      | some apl => attrPoliciesAccept apl v | none => false) = true ↔
      ∃ op ∈ ops, ∃ ap, op.addsElemRule el k ap ∧ (match ap with | none => true | some r => r.test v) = true := by
  have hE := fun ap => h0.built d ops (.elemRule el k ap) nofun
  refine (accept_iff_mem _ k v).trans ⟨fun ⟨ap, hm, hok⟩ => ?_, fun ⟨op, hop, ap, hadd, hok⟩ => ⟨ap, ?_, hok⟩⟩
  · obtain ⟨op, hop, hadd⟩ := (hE ap).mp hm
    exact ⟨op, hop, ap, hadd, hok⟩
  · exact (hE ap).mpr ⟨op, hop, hadd⟩

/-- **C17, the filter decision is a function of the contributions**, from the empty initialised policy -/
theorem C17_accept_iff_contribution (ops : List BuilderOp) (el k v : Bytes) :
    let p := applyOps d { initialized := true } ops
    (match Map.get? (rulesOf p.elsAndAttrs el) k with | some apl => attrPoliciesAccept apl v | none => false) = true ↔
      ∃ op ∈ ops, ∃ ap, op.addsElemRule el k ap ∧ (match ap with | none => true | some r => r.test v) = true :=
  C17_accept_iff_contribution_from d noRules_new ops el k v

/-- the rules the sanitiser uses for an explicitly named element are that element's entry of the
    table `C17_rule_tables` speaks about -/
theorem attrRulesFor_explicit (p : Policy) (el : Bytes) (h : p.hasElem el) :
    p.attrRulesFor el = some (rulesOf p.elsAndAttrs el) := by
  unfold Policy.attrRulesFor rulesOf
  unfold Policy.hasElem at h
  cases hg : p.elsAndAttrs.get? el with
  | none => rw [hg] at h; simp at h
  | some aps => rfl

/-- non-vacuity: two orders and two spellings of one history; the tables agree and hold the rule -/
example :
    let d : Bytes → Bytes → Bool := fun _ _ => false
    let h1 := [BuilderOp.allowAttrs [b!"HREF"] none false (.onElements [b!"A"]), .allowElements [b!"b"]]
    let h2 := [BuilderOp.allowElements [b!"B"], .allowAttrs [b!"href"] none false (.onElements [b!"a"])]
    (applyOps d { initialized := true } h1).elemRules b!"a" b!"href" = [none] ∧
    (applyOps d { initialized := true } h2).elemRules b!"a" b!"href" = [none] ∧
    (applyOps d { initialized := true } h1).elsAndAttrs.contains b!"b" = true ∧
    (applyOps d { initialized := true } h2).elsAndAttrs.contains b!"a" = true := by
  refine ⟨?_, ?_, ?_, ?_⟩ <;> rfl

/-- **C17, the remaining tables = start ∪ contributions**, for every history on an initialised policy -/
theorem C17_rule_tables2 (p : Policy) (hi : p.initialized = true) (ops : List BuilderOp) :
    (∀ r attr x, x ∈ (applyOps d p ops).matchRules r attr ↔
        x ∈ p.matchRules r attr ∨ ∃ op ∈ ops, op.addsMatchRule r attr x) ∧
    (∀ r, (applyOps d p ops).hasPattern r ↔ p.hasPattern r ∨ ∃ op ∈ ops, op.addsPattern r) ∧
    (∀ r prop x, x ∈ (applyOps d p ops).matchStyleRules r prop ↔
        x ∈ p.matchStyleRules r prop ∨ ∃ op ∈ ops, op.addsMatchStyle d r prop x) ∧
    (∀ el, (applyOps d p ops).bareOK el ↔ p.bareOK el ∨ ∃ op ∈ ops, op.addsBareOK el) ∧
    (∀ id, (applyOps d p ops).bareOKPattern id ↔ p.bareOKPattern id ∨ ∃ op ∈ ops, op.addsBareOKPattern id) ∧
    (∀ id, (applyOps d p ops).schemePattern id ↔ p.schemePattern id ∨ ∃ op ∈ ops, op.addsSchemePattern id) :=
  rules2_applyOps d p hi ops

theorem sameTables2_of_same_calls (p : Policy) (hi : p.initialized = true) (ops₁ ops₂ : List BuilderOp)
    (h : ∀ op, op ∈ ops₁ ↔ op ∈ ops₂) : SameTables2 (applyOps d p ops₁) (applyOps d p ops₂) :=
  (sameTables_of_holds fun t => (tables_adds d t).same_of_mem p hi _ _ h).2

/-- **C17, order independence of the pattern-scoped tables and the sets** -/
theorem C17_order_independent2 (p : Policy) (hi : p.initialized = true) (ops₁ ops₂ : List BuilderOp)
    (h : ops₁.Perm ops₂) : SameTables2 (applyOps d p ops₁) (applyOps d p ops₂) :=
  sameTables2_of_same_calls d p hi ops₁ ops₂ (fun _ => h.mem_iff)

/-- **C17, case independence of the pattern-scoped tables and the sets** -/
theorem C17_case_independent2 (f : Bytes → Bytes) (hf : ∀ n, toLowerName (f n) = toLowerName n)
    (p : Policy) (hi : p.initialized = true) (ops : List BuilderOp) :
    SameTables2 (applyOps d p (ops.map (respell f))) (applyOps d p ops) :=
  (sameTables_map d _ (respell_sameAdds d f hf) p hi ops).2

/-- **C17, switches**: refinement of the built policy's switches to the switch machine -/
theorem C17_switches_refinement (p : Policy) (hi : p.initialized = true) (ops : List BuilderOp) :
    (applyOps d p ops).switches = ops.foldl (fun s op => op.setSwitches s) p.switches :=
  switches_applyOps d p hi ops

/-- **C17, a switch reflects its most recent setting**, for every history on an initialised
    policy — stated for eleven of the fourteen switches (not for `allowDataAttributes` and `allowComments`,
    which calls only ever switch on, nor for `srcRewriter`).  `requireParseableURLs` is set by its own call
    and, as documented, switched on by every link option, by `AllowRelativeURLs` and by the scheme registrations. -/
theorem C17_last_setting_wins (p : Policy) (hi : p.initialized = true) (ops : List BuilderOp) :
    let q := applyOps d p ops
    let last {γ : Type} (eff : BuilderOp → Option γ) (start : γ) : γ := (ops.reverse.findSome? eff).getD start
    q.addSpaces = last (fun | .addSpaceWhenStrippingTag b => some b | _ => none) p.addSpaces ∧
    q.requireNoFollow = last (fun | .requireNoFollowOnLinks b => some b | _ => none) p.requireNoFollow ∧
    q.requireNoFollowFullyQualifiedLinks =
      last (fun | .requireNoFollowOnFullyQualifiedLinks b => some b | _ => none) p.requireNoFollowFullyQualifiedLinks ∧
    q.requireNoReferrer = last (fun | .requireNoReferrerOnLinks b => some b | _ => none) p.requireNoReferrer ∧
    q.requireNoReferrerFullyQualifiedLinks =
      last (fun | .requireNoReferrerOnFullyQualifiedLinks b => some b | _ => none) p.requireNoReferrerFullyQualifiedLinks ∧
    q.requireCrossOriginAnonymous =
      last (fun | .requireCrossOriginAnonymous b => some b | _ => none) p.requireCrossOriginAnonymous ∧
    q.addTargetBlankToFullyQualifiedLinks =
      last (fun | .addTargetBlankToFullyQualifiedLinks b => some b | _ => none) p.addTargetBlankToFullyQualifiedLinks ∧
    q.allowRelativeURLs = last (fun | .allowRelativeURLs b => some b | _ => none) p.allowRelativeURLs ∧
    q.allowUnsafe = last (fun | .allowUnsafe b => some b | _ => none) p.allowUnsafe ∧
    q.requireSandboxOnIFrame =
      last (fun | .requireSandboxOnIFrame v => some (some v) | _ => none) p.requireSandboxOnIFrame ∧
    q.requireParseableURLs =
      last (fun | .requireParseableURLs b => some b
                | .requireNoFollowOnLinks _ | .requireNoFollowOnFullyQualifiedLinks _
                | .requireNoReferrerOnLinks _ | .requireNoReferrerOnFullyQualifiedLinks _
                | .addTargetBlankToFullyQualifiedLinks _ | .allowRelativeURLs _
                | .allowURLSchemes _ | .allowURLSchemeWithCustomPolicy _ _ => some true
                | _ => none) p.requireParseableURLs := by
  intro q last
  -- each field of the switch machine is set or left alone by every call (`lastSetting`)
  have key {γ : Type} (get : Switches → γ) (eff : BuilderOp → Option γ)
      (hh : ∀ op s, get (op.setSwitches s) = (eff op).getD (get s)) : get q.switches = last eff (get p.switches) :=
    (congrArg get (switches_applyOps d p hi ops)).trans (lastSetting get eff hh ops p.switches)
  exact ⟨key Switches.addSpaces _ fun op _ => by cases op <;> rfl,
    key Switches.requireNoFollow _ fun op _ => by cases op <;> rfl,
    key Switches.requireNoFollowFullyQualifiedLinks _ fun op _ => by cases op <;> rfl,
    key Switches.requireNoReferrer _ fun op _ => by cases op <;> rfl,
    key Switches.requireNoReferrerFullyQualifiedLinks _ fun op _ => by cases op <;> rfl,
    key Switches.requireCrossOriginAnonymous _ fun op _ => by cases op <;> rfl,
    key Switches.addTargetBlankToFullyQualifiedLinks _ fun op _ => by cases op <;> rfl,
    key Switches.allowRelativeURLs _ fun op _ => by cases op <;> rfl,
    key Switches.allowUnsafe _ fun op _ => by cases op <;> rfl,
    key Switches.requireSandboxOnIFrame _ fun op _ => by cases op <;> rfl,
    key Switches.requireParseableURLs _ fun op _ => by cases op <;> rfl⟩

/-- **C17, skip / keep content reflects the most recent call naming the element** -/
theorem C17_skip_last_wins (p : Policy) (hi : p.initialized = true) (ops : List BuilderOp) (el : Bytes) :
    (applyOps d p ops).skips el = (ops.reverse.findSome? (BuilderOp.setsSkip el)).getD (p.skips el) :=
  skips_applyOps d p hi ops el

/-- **C17, scheme registrations**: per scheme, a refinement to `setsScheme` -/
theorem C17_scheme_refinement (p : Policy) (hi : p.initialized = true) (ops : List BuilderOp) (s : Bytes) :
    (applyOps d p ops).allowURLSchemes.get? s = ops.foldl (fun st op => op.setsScheme s st) (p.allowURLSchemes.get? s) :=
  scheme_applyOps d p hi ops s

/-- a plain `AllowURLSchemes` naming the scheme forgets whatever was registered for it before:
    what comes before that call in the history is irrelevant for the scheme -/
theorem C17_scheme_plain_forgets (p p' : Policy) (hi : p.initialized = true) (hi' : p'.initialized = true)
    (pre pre' post : List BuilderOp) (names : List Bytes) (s : Bytes)
    (hs : (names.map toLowerName).contains s = true) :
    (applyOps d p (pre ++ .allowURLSchemes names :: post)).allowURLSchemes.get? s =
    (applyOps d p' (pre' ++ .allowURLSchemes names :: post)).allowURLSchemes.get? s := by
  rw [scheme_applyOps d p hi, scheme_applyOps d p' hi']
  simp only [List.foldl_append, List.foldl_cons, BuilderOp.setsScheme, hs, ↓reduceIte]

/-- non-vacuity: a toggled history; the last settings are the ones in force -/
example :
    let d : Bytes → Bytes → Bool := fun _ _ => false
    let q := applyOps d { initialized := true }
      [.addSpaceWhenStrippingTag true, .requireNoFollowOnLinks true, .requireParseableURLs false,
       .skipElementsContent [b!"DIV"], .addSpaceWhenStrippingTag false, .allowElementsContent [b!"div"],
       .allowURLSchemeWithCustomPolicy b!"data" (fun _ => false), .allowURLSchemes [b!"DATA"]]
    q.addSpaces = false ∧ q.requireNoFollow = true ∧ q.requireParseableURLs = true ∧ q.skips b!"div" = false ∧
    (q.allowURLSchemes.get? b!"data").map List.length = some 0 := by
  refine ⟨?_, ?_, ?_, ?_, ?_⟩ <;> rfl

end BM.Props
