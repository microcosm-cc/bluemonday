import BM.Props.C20e
import BM.Props.C04ugc
import BM.Props.C19c
import BM.Proofs.Utf8Decode
/-
  C20 for UGCPolicy (the policy regenerated from policies.go).  The property's last clause — "the same holds for
  UGCPolicy whenever no del/ins cite attribute survives the first pass" — does not fit `C20_links`: UGCPolicy attaches
  a value pattern to `cite` on del and ins, so its attribute pass is not a fixed point on those two elements in
  general.  The fixed-point argument is made element by element (`link_idemAt`, `link_idemOpen`) and relative to a
  fact about the *output* (`C20_fix_out`).  On every element but `area` the rules let neither rel nor target through
  (`ugc_linkBaseAt`).  On `area` UGCPolicy lets `rel` through under the SpaceSeparatedTokens pattern, so the `nofollow`
  the link option adds stays in the value on the second pass.  That the second pass accepts the new value is a fact about the pattern: a value it accepts is
  still accepted with ` nofollow` appended (`sst_addRelToken`: the expression is one or more characters of a class
  that contains the space and the letters; appending ASCII bytes does not change how the value itself decodes).
-/
namespace BM.Props
open BM BM.Html BM.Spec BM.Re

def sstRanges : List (Rune × Rune) :=
  match Gen.patSpaceSeparatedTokens with
  | .cat .bot (.cat (.plus (.cls rs)) .eot) => rs
  | _ => []

theorem sst_shape : Gen.patSpaceSeparatedTokens = .cat .bot (.cat (.plus (.cls sstRanges)) .eot) := rfl

/-- the converse of `SpaceSeparatedTokens_form`: a non-empty value all of whose characters are in the class is accepted -/
theorem sst_accepts (v : Bytes) (hne : decodeRunes v ≠ []) (hall : ∀ c ∈ decodeRunes v, inRanges c sstRanges = true) :
    Re.matchBytes Gen.patSpaceSeparatedTokens v = true := by
  rw [sst_shape]
  exact search_plus_cls_iff.mpr ⟨hne, hall⟩

theorem sst_all (v : Bytes) (h : Re.matchBytes Gen.patSpaceSeparatedTokens v = true) :
    decodeRunes v ≠ [] ∧ ∀ c ∈ decodeRunes v, inRanges c sstRanges = true := by
  rw [sst_shape] at h
  exact search_plus_cls_iff.mp h

theorem sst_append (v tok : Bytes) (h : Re.matchBytes Gen.patSpaceSeparatedTokens v = true)
    (hascii : AsciiBytes (32 :: tok)) (hin : ∀ c ∈ (32 :: tok).map (·.toNat), inRanges c sstRanges = true) :
    Re.matchBytes Gen.patSpaceSeparatedTokens (v ++ 32 :: tok) = true := by
  obtain ⟨hne, hall⟩ := sst_all v h
  have hdec : decodeRunes (v ++ 32 :: tok) = decodeRunes v ++ (32 :: tok).map (·.toNat) := by
    rw [decodeRunes_append_ascii v.length v _ (Nat.le_refl _) hascii, decodeRunes_ascii _ hascii]
  apply sst_accepts
  · rw [hdec]
    intro hnil
    exact hne (List.append_eq_nil_iff.mp hnil).1
  · rw [hdec]
    intro c hc
    rcases List.mem_append.mp hc with hc | hc
    · exact hall c hc
    · exact hin c hc

theorem sst_addRelToken (v : Bytes) (h : Re.matchBytes Gen.patSpaceSeparatedTokens v = true) :
    Re.matchBytes Gen.patSpaceSeparatedTokens (addRelToken true b!"nofollow" v) = true := by
  unfold addRelToken
  split
  · exact sst_append v b!"nofollow" h (by unfold AsciiBytes; decide) (by decide)
  · exact h

/-- what the regenerated UGC tables say about the attributes the sanitiser itself rewrites: outside del and ins no
    element rule attaches a value pattern to href, cite or src; no link element other than area has a rule for rel
    or target (area: `AllowAttrs("rel").Matching(SpaceSeparatedTokens)`); the global rules mention none of the five -/
theorem ugc_rewritten_attrs :
    (Gen.ugcPolicy.elsAndAttrs.all fun e =>
      (e.1 == b!"del" || e.1 == b!"ins" || (patFree e.2 b!"href" && patFree e.2 b!"cite" && patFree e.2 b!"src")) &&
      (e.1 == b!"area" || !isHrefElement e.1 || (noRule e.2 b!"rel" && noRule e.2 b!"target"))) = true ∧
    (noRule Gen.ugcPolicy.globalAttrs b!"href" && noRule Gen.ugcPolicy.globalAttrs b!"cite" &&
     noRule Gen.ugcPolicy.globalAttrs b!"src" && noRule Gen.ugcPolicy.globalAttrs b!"rel" &&
     noRule Gen.ugcPolicy.globalAttrs b!"target") = true := by decide +kernel

theorem ugc_linkCoreAt (el : Bytes) : LinkCoreAt Gen.ugcPolicy el :=
  ⟨ugc_noStyle el, ugc_switches.2.2.2.2.2.1, ugc_switches.2.2.2.2.2.2.1, ugc_switches.2.2.2.2.2.2.2⟩

/-- outside del and ins, UGCPolicy's rules for an element do not look at the value of its URL attribute -/
theorem ugc_blind {el : Bytes} {aps : AttrRules} (haps : Gen.ugcPolicy.attrRulesFor el = some aps)
    (hdi : ¬(el = b!"del" ∨ el = b!"ins")) {k : Bytes} (hk : urlKeyFor el = some k) (v v' : Bytes) :
    (Gen.ugcPolicy.filterAttr el aps false ⟨k, v⟩).isSome = (Gen.ugcPolicy.filterAttr el aps false ⟨k, v'⟩).isSome := by
  have hrow := List.all_eq_true.mp ugc_rewritten_attrs.1 _ (ugc_attrRulesFor el aps haps)
  have hglob := ugc_rewritten_attrs.2
  simp only [Bool.and_eq_true, Bool.or_eq_true, beq_iff_eq] at hrow hglob
  rcases hrow.1 with hd | hpf
  · exact absurd hd hdi
  · rcases urlKeyFor_mem el k hk with rfl | rfl | rfl
    · exact filterAttr_blind _ _ _ _ hpf.1.1 (patFree_of_noRule _ _ hglob.1.1.1.1) v v'
    · exact filterAttr_blind _ _ _ _ hpf.1.2 (patFree_of_noRule _ _ hglob.1.1.1.2) v v'
    · exact filterAttr_blind _ _ _ _ hpf.2 (patFree_of_noRule _ _ hglob.1.1.2) v v'

theorem ugc_linkBaseAt (el : Bytes) (hna : el ≠ b!"area") : LinkBaseAt Gen.ugcPolicy el where
  toLinkCoreAt := ugc_linkCoreAt el
  noRelTarget := by
    intro aps haps hhref v
    have hrow := List.all_eq_true.mp ugc_rewritten_attrs.1 _ (ugc_attrRulesFor el aps haps)
    have hglob := ugc_rewritten_attrs.2
    simp only [Bool.and_eq_true, Bool.or_eq_true, Bool.not_eq_true', beq_iff_eq] at hrow hglob
    have hnd : ∀ k, (Gen.ugcPolicy.allowDataAttributes && isDataAttribute k) = false :=
      fun _ => by rw [ugc_switches.2.2.2.1]; rfl
    rcases hrow.2 with (hne | hne) | ⟨hr, ht⟩
    · exact absurd hne hna
    · rw [hhref] at hne; cases hne
    · exact ⟨filterAttr_noRule _ el aps _ (hnd _) hr hglob.1.2 v, filterAttr_noRule _ el aps _ (hnd _) ht hglob.2 v⟩

/-- what the property's proviso says of a tag of the first pass's output — and, the part that makes
    `C20_ugc_partial` partial, that the tag is not an `area` tag -/
def NoCiteOnDelIns (k : Token) : Prop :=
  ((k.data = b!"del" ∨ k.data = b!"ins") → ∀ b ∈ k.attrs, b.key ≠ b!"cite") ∧ k.data ≠ b!"area" ∧
  UrlStableOn Gen.ugcPolicy k.data k.attrs

/-- the property's provisos, as they read, of a tag of the first pass's output: no cite attribute on a del or ins
    tag, and URL normalisation is stable (every URL value at a checked position is returned unchanged by the check) -/
def NoCite (k : Token) : Prop :=
  ((k.data = b!"del" ∨ k.data = b!"ins") → ∀ b ∈ k.attrs, b.key ≠ b!"cite") ∧ UrlStableOn Gen.ugcPolicy k.data k.attrs

def areaRules : AttrRules := (Gen.ugcPolicy.elsAndAttrs.get? b!"area").getD []

theorem area_get : Gen.ugcPolicy.elsAndAttrs.get? b!"area" = some areaRules :=
  eq_some_getD [] (by decide +kernel)

-- a pattern holds a function, so this is not a decidable statement: the elaborator has to evaluate the builder
-- calls, which needs the deeper recursion limit
set_option maxRecDepth 100000 in
theorem area_rel : areaRules.get? b!"rel" = some [some ⟨8, Re.matchBytes Gen.patSpaceSeparatedTokens⟩] := rfl

theorem ugc_area_rules (aps : AttrRules) (h : Gen.ugcPolicy.attrRulesFor b!"area" = some aps) : aps = areaRules :=
  (Option.some.inj ((attrRulesFor_of_get? area_get).symm.trans h)).symm

theorem ugc_area_rel (v : Bytes) :
    (Gen.ugcPolicy.filterAttr b!"area" areaRules false ⟨b!"rel", v⟩).isSome =
      Re.matchBytes Gen.patSpaceSeparatedTokens v := by
  have hg : noRule Gen.ugcPolicy.globalAttrs b!"rel" = true := by
    have := ugc_rewritten_attrs.2
    simp only [Bool.and_eq_true] at this
    exact this.1.2
  rw [filterAttr_isSome, ugc_switches.2.2.2.1, area_rel, (by simpa [noRule] using hg : Gen.ugcPolicy.globalAttrs.get? b!"rel" = Option.none)]
  simp only [Bool.false_and, Bool.false_or, Bool.or_false, attrPoliciesAccept, List.any_cons, List.any_nil]

theorem ugc_area_harden (u : List Attr) (b : Attr) (hb : b ∈ Gen.ugcPolicy.hardenLinks b!"area" u) :
    b ∈ u ∨ (∃ a ∈ u, a.key = b!"rel" ∧ b = ⟨b!"rel", addRelToken true b!"nofollow" a.val⟩) ∨
      b = ⟨b!"rel", b!"nofollow"⟩ := by
  rw [hardenLinks_core] at hb
  split at hb
  · exact .inl hb
  · obtain ⟨h1, h2, h3, h4⟩ := ugc_flags
    have hA : (b!"area" == b!"a") = false := by decide
    simp only [h1, h2, h3, h4, Bool.true_or, Bool.and_false, Bool.or_false, hA] at hb
    unfold hardenCore at hb
    simp only [Bool.false_and, Bool.false_eq_true, ↓reduceIte, Bool.true_or, Bool.true_and, Bool.or_self] at hb
    have hmap : b ∈ u.map (relFix true false) → b ∈ u ∨
        (∃ a ∈ u, a.key = b!"rel" ∧ b = ⟨b!"rel", addRelToken true b!"nofollow" a.val⟩) ∨ b = ⟨b!"rel", b!"nofollow"⟩ := by
      intro hx
      obtain ⟨a, ha, rfl⟩ := List.mem_map.mp hx
      unfold relFix
      split
      · rename_i hc
        simp only [Bool.or_false, Bool.and_true, beq_iff_eq] at hc
        refine .inr (.inl ⟨a, ha, hc, ?_⟩)
        simp [addRelToken, hc]
      · exact .inl ha
    split at hb
    · exact (List.mem_append.mp hb).elim hmap fun hb => .inr (.inr (List.mem_singleton.mp hb))
    · exact hmap hb

theorem ugc_area_closed (u : List Attr)
    (hu : ∀ a ∈ u, (Gen.ugcPolicy.filterAttr b!"area" areaRules false a).isSome = true) :
    ∀ b ∈ Gen.ugcPolicy.hardenLinks b!"area" u, (Gen.ugcPolicy.filterAttr b!"area" areaRules false b).isSome = true := by
  intro b hb
  rcases ugc_area_harden u b hb with h | ⟨a, ha, hk, rfl⟩ | rfl
  · exact hu b h
  · have hacc := hu a ha
    have ha' : a = ⟨b!"rel", a.val⟩ := by cases a; simp_all
    rw [ha', ugc_area_rel] at hacc
    rw [ugc_area_rel]
    exact sst_addRelToken a.val hacc
  · rw [ugc_area_rel]; decide

theorem ugc_attrFix_full (t : Token) : AttrFixG Gen.ugcPolicy NoCite t := by
  refine attrFixG_of_idem fun attrs aps haps h hG => ?_
  by_cases harea : t.data = b!"area"
  · -- the rules let rel through: the token is found in place
    have hst : UrlStableOn Gen.ugcPolicy t.data attrs := hG.2
    rw [harea] at haps h hst ⊢
    have e : aps = areaRules := ugc_area_rules aps haps
    rewrite [e] at haps h ⊢
    exact link_idemOpen Gen.ugcPolicy b!"area" (ugc_linkCoreAt _) t.attrs attrs areaRules h
      (fun k hk => ugc_blind haps (by decide) hk) (fun _ u hu => ugc_area_closed u hu) hst
  · -- the rules let neither rel nor target through
    refine link_idemAt Gen.ugcPolicy t.data (ugc_linkBaseAt t.data harea) t.attrs attrs aps haps h (fun k hk => ?_) hG.2
    by_cases hdi : t.data = b!"del" ∨ t.data = b!"ins"
    · -- del / ins: the URL attribute is cite, and the proviso says there is none in the result
      have hkc : urlKeyFor t.data = some b!"cite" ∧ isHrefElement t.data = false := by
        rcases hdi with hd | hd <;> rw [hd] <;> exact ⟨rfl, rfl⟩
      rw [hkc.1] at hk
      cases hk
      exact .inr ⟨hkc.2, hG.1 hdi⟩
    · exact .inl (ugc_blind haps hdi hk)

/-- **C20 for UGCPolicy** (the policy regenerated from policies.go on every run) — the property's last clause:
    whenever no del / ins tag an HTML tokenizer reads from `Sanitize(x)` carries a cite attribute, and URL
    normalisation is stable on `Sanitize(x)` (every URL value at a checked position of it is returned unchanged by
    the URL check — the part of the clause that belongs to net/url, true of all URLs but the few paths of the known
    finding `url-reprint-unstable`), `Sanitize(Sanitize(x)) = Sanitize(x)`: escaping is not applied twice, the
    `rel="nofollow"` the policy adds is stripped and added again identically — or, on `area`, where UGCPolicy lets
    rel through, found in place and not repeated.  Both hypotheses are decidable statements about the output. -/
theorem C20_ugc (input : Bytes)
    (hout : ∀ k ∈ tokenize (Gen.ugcPolicy.sanitizeCore input), isOpen k → NoCite k) :
    Gen.ugcPolicy.sanitizeCore (Gen.ugcPolicy.sanitizeCore input) = Gen.ugcPolicy.sanitizeCore input := by
  refine C20_fix_out Gen.ugcPolicy ugc_plain NoCite input ?_ hout
  intro t _
  rw [ugc_init]
  exact ugc_attrFix_full t

/-- `C20_ugc` with `area` tags excluded from the output -/
theorem C20_ugc_partial (input : Bytes)
    (hcite : ∀ k ∈ tokenize (Gen.ugcPolicy.sanitizeCore input), isOpen k → NoCiteOnDelIns k) :
    Gen.ugcPolicy.sanitizeCore (Gen.ugcPolicy.sanitizeCore input) = Gen.ugcPolicy.sanitizeCore input :=
  C20_ugc input fun k hk ho => ⟨(hcite k hk ho).1, (hcite k hk ho).2.2⟩

/-- the proviso is met by a case in which the link option is at work (a test of the hypotheses, not the claim) -/
example :
    Gen.ugcPolicy.sanitizeCore b!"<a href=\"http://x.com/\" rel=me>t</a><del cite=\"a b\">u</del>" =
      b!"<a href=\"http://x.com/\" rel=\"nofollow\">t</a><del>u</del>" ∧
    ∀ k ∈ tokenize (Gen.ugcPolicy.sanitizeCore b!"<a href=\"http://x.com/\" rel=me>t</a><del cite=\"a b\">u</del>"),
      isOpen k → NoCiteOnDelIns k := by
  unfold isOpen NoCiteOnDelIns UrlStableOn
  decide +kernel

/-- the proviso is met by a case with an `area` whose rel value gets the token in place (a test of the hypotheses) -/
example :
    Gen.ugcPolicy.sanitizeCore b!"<area href=\"/x\" rel=\"a b\"><del cite=\"a b\">u</del>" =
      b!"<area href=\"/x\" rel=\"a b nofollow\"><del>u</del>" ∧
    ∀ k ∈ tokenize (Gen.ugcPolicy.sanitizeCore b!"<area href=\"/x\" rel=\"a b\"><del cite=\"a b\">u</del>"),
      isOpen k → NoCite k := by
  unfold isOpen NoCite UrlStableOn
  decide +kernel

/-- a matcher a user might supply for `float`: lower-case letters, spaces and `!` -/
def lettersAndBang : Re := .cat .bot (.cat (.plus (.cls [(32, 33), (97, 122)])) .eot)

/-- `AllowStyles("float").Matching(^[a-z !]+$).Globally()`, `b` allowed, `style` allowed globally -/
def importantPolicy : Policy :=
  { initialized := true, elsAndAttrs := [(b!"b", [])], globalAttrs := [(b!"style", [Option.none])],
    globalStyles := [(b!"float", [{ re := some ⟨1, Re.matchBytes lettersAndBang⟩ }])] }

/-- policies with style rules are outside every C20 theorem above, and this is why: the declaration parser takes one
    trailing `!important` off the value, `sanitizeStyles` writes `property: value` without it, and a matcher that
    accepts `!important` as text lets a further one through — so each pass removes one and
    `Sanitize(Sanitize(x)) ≠ Sanitize(x)`.  The model shows what the implementation shows (known finding
    `important-dropped`, D22; with the default handlers a repeated `!important` is refused). -/
example :
    importantPolicy.sanitizeCore b!"<b style=\"float: left !important !important !important\">t</b>" =
      b!"<b style=\"float: left !important !important\">t</b>" ∧
    importantPolicy.sanitizeCore b!"<b style=\"float: left !important !important\">t</b>" =
      b!"<b style=\"float: left !important\">t</b>" := by decide +kernel

end BM.Props
