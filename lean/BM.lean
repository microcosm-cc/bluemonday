import BM.Basic
import BM.Regex
import BM.Html
import BM.Url
import BM.Css
import BM.Policy
import BM.Sanitize
import BM.Golite
import BM.RecCheck
import BM.CssDefault
import BM.Shipped
import BM.Entry
import BM.HardenGo
import BM.Spec.Oracles
import BM.Spec.More
import BM.Proofs.Escape
import BM.Proofs.Next
import BM.Proofs.RtTag
import BM.Proofs.RtComment
import BM.Proofs.RtDoc
import BM.Proofs.TokWF
import BM.Proofs.LoopState
import BM.Proofs.Step
import BM.Proofs.AttrPass
import BM.Proofs.AttrNF
import BM.Proofs.Bytes
import BM.Proofs.Prov
import BM.Proofs.TextOf
import BM.Proofs.Nesting
import BM.Proofs.SkipText
import BM.Proofs.HardenGo
import BM.Proofs.UrlScheme
import BM.Proofs.UrlRelative
import BM.Proofs.Utf8Decode
import BM.Proofs.Builder
import BM.Proofs.Tables
import BM.Proofs.Switches
import BM.Proofs.WFBuild
import BM.Proofs.ViewTables
import BM.Proofs.Congr
import BM.Proofs.RegexSem
import BM.Proofs.RegexLemmas
import BM.Proofs.RegexWords
import BM.Proofs.RecCheck
import BM.Proofs.GoliteInv
import BM.Proofs.CssClean
import BM.Proofs.CssDelete
import BM.Proofs.CssAnalysis
import BM.Proofs.CssAbsExpr
import BM.Proofs.CssAbs
import BM.Props.BuilderPins
import BM.Props.C01
import BM.Props.C01c
import BM.Props.C02
import BM.Props.C02c
import BM.Props.C03
import BM.Props.C03c
import BM.Props.C04
import BM.Props.C04ugc
import BM.Props.C05
import BM.Props.C06
import BM.Props.C07
import BM.Props.C07b
import BM.Props.C07c
import BM.Props.C08
import BM.Props.C09
import BM.Props.C10
import BM.Props.C10b
import BM.Props.C10c
import BM.Props.C11
import BM.Props.C11b
import BM.Props.C12
import BM.Props.C13
import BM.Props.C14
import BM.Props.C15
import BM.Props.C16
import BM.Props.C17
import BM.Props.C17b
import BM.Props.C18
import BM.Props.C18b
import BM.Props.C18c
import BM.Props.C19
import BM.Props.C19c
import BM.Props.C20
import BM.Props.C20e
import BM.Props.C20f
import BM.Props.Pins
import BM.Props.Top.C01
import BM.Props.Top.C02
import BM.Props.Top.C03
import BM.Props.Top.C04
import BM.Props.Top.C05
import BM.Props.Top.C06
import BM.Props.Top.C07
import BM.Props.Top.C08
import BM.Props.Top.C09
import BM.Props.Top.C10
import BM.Props.Top.C11
import BM.Props.Top.C12
import BM.Props.Top.C13
import BM.Props.Top.C14
import BM.Props.Top.C15
import BM.Props.Top.C16
import BM.Props.Top.C17
import BM.Props.Top.C18
import BM.Props.Top.C19
import BM.Props.Top.C20
import BM.Driver.Main
